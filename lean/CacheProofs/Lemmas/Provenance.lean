import CacheProofs.Lemmas.Failover

/- The provenance invariant `Prov` of the Failover machine (C02). `ThreadOK` splits into what a thread carries and what its
   position asks (`ThreadOK.of_pcOK`), `Prov` into a statement per thread (`prov_iff`), so that a rule of `Step` asks for the
   stepping thread only (`Prov.setTh`), except where a lock record changes (`Prov.finish_release`, `Prov.electWon`). -/
namespace Cache

def GoodVal (g : Ghost) (k : Key) (v : Val) : Prop := (k, v) ∈ g.builtOk ∨ (k, v) ∈ g.backendVals
def GoodErr (g : Ghost) (k : Key) (e : Err) : Prop := (k, e) ∈ g.buildErr ∨ (k, e) ∈ g.backendErrs

/-- A result with provenance for key `k`: a value some builder produced for `k` or the backend returned for `k`,
    or an error a builder / the backend produced for `k`; never (nil, nil). -/
def Good (g : Ghost) (k : Key) (r : GetResult) : Prop :=
  (r.err = none → ∃ v, r.val = some v ∧ GoodVal g k v) ∧ (∀ e, r.err = some e → GoodErr g k e)

/-- Ghost lists only grow. -/
structure GLe (g g' : Ghost) : Prop where
  b : ∀ x, x ∈ g.builtOk → x ∈ g'.builtOk
  e : ∀ x, x ∈ g.buildErr → x ∈ g'.buildErr
  v : ∀ x, x ∈ g.backendVals → x ∈ g'.backendVals
  r : ∀ x, x ∈ g.backendErrs → x ∈ g'.backendErrs

theorem GoodVal.mono {g g' : Ghost} (h : GLe g g') {k v} (hv : GoodVal g k v) : GoodVal g' k v :=
  hv.elim (fun x => Or.inl (h.b _ x)) (fun x => Or.inr (h.v _ x))
theorem GoodErr.mono {g g' : Ghost} (h : GLe g g') {k e} (he : GoodErr g k e) : GoodErr g' k e :=
  he.elim (fun x => Or.inl (h.e _ x)) (fun x => Or.inr (h.r _ x))
theorem Good.mono {g g' : Ghost} (h : GLe g g') {k r} (hr : Good g k r) : Good g' k r :=
  ⟨fun hn => let ⟨v, hv, hg⟩ := hr.1 hn; ⟨v, hv, hg.mono h⟩, fun e he => (hr.2 e he).mono h⟩

theorem good_val {g : Ghost} {k : Key} {v : Val} (h : GoodVal g k v) : Good g k ⟨some v, none⟩ :=
  ⟨fun _ => ⟨v, rfl, h⟩, fun e he => (by cases he)⟩
theorem good_err {g : Ghost} {k : Key} {e : Err} (v : Option Val) (h : GoodErr g k e) : Good g k ⟨v, some e⟩ :=
  ⟨fun hn => (by cases hn), fun e' he => (by cases he; exact h)⟩

/-- What `Prov` asks of one thread: what it carries (`ret`, `stl`, `rrs`, `rre`) and what its position holds (`sto`, `ste`,
    `fin`) has provenance for the thread's key; `frs` … `wto` are facts about control (`frs`: where the read error is nil there
    is a stale value, the one a background build returns at once). -/
structure ThreadOK (g : Ghost) (x : Thread) : Prop where
  ret : ∀ r, x.returned = some r → Good g x.key r
  stl : ∀ v, x.stale = some v → GoodVal g x.key v
  rrs : ∀ v since, x.readRes = .stale v since → GoodVal g x.key v
  rre : ∀ e, x.readRes = .err e → GoodErr g x.key e
  sto : ∀ v, x.pc = .storing v → (x.key, v) ∈ g.builtOk
  ste : ∀ e, x.pc = .storeErr e → (x.key, e) ∈ g.buildErr
  fin : ∀ r, x.pc = .finish r → Good g x.key r
  frs : (x.pc = .checkErrs ∨ x.pc = .decideSync) → x.errNonNil = false → x.stale.isSome = true
  bgr : x.bg = true → x.returned.isSome = true
  idl : x.pc = .idle → x.returned = none ∧ x.stale = none ∧ x.readRes = .miss ∧ x.bg = false
  rfs : x.pc = .refreshing → x.stale.isSome = true
  wto : x.pc = .waiting → x.owner = false

theorem ThreadOK.mono {g g' : Ghost} (h : GLe g g') {x : Thread} (hx : ThreadOK g x) : ThreadOK g' x :=
  ⟨fun r hr => (hx.ret r hr).mono h, fun v hv => (hx.stl v hv).mono h, fun v s hv => (hx.rrs v s hv).mono h,
   fun e he => (hx.rre e he).mono h, fun v hv => h.b _ (hx.sto v hv), fun e he => h.e _ (hx.ste e he),
   fun r hr => (hx.fin r hr).mono h, hx.frs, hx.bgr, hx.idl, hx.rfs, hx.wto⟩

/-- What `ThreadOK` asks of a thread because of where it stands: its clauses `sto` … `wto` (all but `bgr`), as one match on
    the position. -/
def Thread.pcOK (g : Ghost) (x : Thread) : Prop :=
  match x.pc with
  | .storing v => (x.key, v) ∈ g.builtOk
  | .storeErr e => (x.key, e) ∈ g.buildErr
  | .finish r => Good g x.key r
  | .checkErrs | .decideSync => x.errNonNil = false → x.stale.isSome = true
  | .idle => x.returned = none ∧ x.stale = none ∧ x.readRes = .miss ∧ x.bg = false
  | .refreshing => x.stale.isSome = true
  | .waiting => x.owner = false
  | _ => True

/-- `hc` is the clauses about what the thread carries (`ret`, `stl`, `rrs`, `rre`, `bgr`), `h` the rest. -/
theorem ThreadOK.of_pcOK {g : Ghost} {x : Thread}
    (hc : (∀ r, x.returned = some r → Good g x.key r) ∧ (∀ v, x.stale = some v → GoodVal g x.key v) ∧
      (∀ v since, x.readRes = .stale v since → GoodVal g x.key v) ∧ (∀ e, x.readRes = .err e → GoodErr g x.key e) ∧
      (x.bg = true → x.returned.isSome = true)) (h : x.pcOK g) : ThreadOK g x := by
  obtain ⟨ret, stl, rrs, rre, bgr⟩ := hc
  refine ⟨ret, stl, rrs, rre, fun v hp => ?_, fun e hp => ?_, fun r hp => ?_, ?frs, bgr, fun hp => ?_, fun hp => ?_, fun hp => ?_⟩
  case frs => rintro (hp | hp) <;> simpa [Thread.pcOK, hp] using h
  all_goals simpa [Thread.pcOK, hp] using h

/-- `x` may change its position and the fields that the clauses about what it carries do not mention, if it meets what the new
    position asks. -/
theorem ThreadOK.goto {g : Ghost} {x : Thread} (hx : ThreadOK g x) {p : Pc} {cl : Option Int} {o : Bool} {l : Nat} {e d : Bool}
    (hpc : ({ x with pc := p, cell := cl, owner := o, lid := l, errNonNil := e, detached := d } : Thread).pcOK g) :
    ThreadOK g { x with pc := p, cell := cl, owner := o, lid := l, errNonNil := e, detached := d } :=
  .of_pcOK ⟨hx.ret, hx.stl, hx.rrs, hx.rre, hx.bgr⟩ hpc

structure Prov (s : FState) : Prop where
  thr : ∀ t, ThreadOK s.g (s.th t)
  klo : ∀ t, (s.th t).attached → (s.kl (s.th t).lid).closed = true →
          Good s.g (s.th t).key ⟨(s.kl (s.th t).lid).val, (s.kl (s.th t).lid).err⟩
  ers : ∀ k e E, s.errs k = some (e, E) → (k, e) ∈ s.g.buildErr

theorem prov_init : Prov FState.init := by
  refine ⟨fun t => ⟨?_, ?_, ?_, ?_, ?_, ?_, ?_, ?_, ?_, ?_, ?_, ?_⟩, ?_, ?_⟩ <;> intros <;> simp_all [FState.init, Thread.attached]

/-- The part of `Prov` that speaks of one thread: `thr` and `klo` at that thread (`prov_iff`). -/
def ThreadProv (kl : Nat → KL) (g : Ghost) (x : Thread) : Prop :=
  ThreadOK g x ∧ (x.attached → (kl x.lid).closed = true → Good g x.key ⟨(kl x.lid).val, (kl x.lid).err⟩)

theorem prov_iff {s : FState} : Prov s ↔
    (∀ t, ThreadProv s.kl s.g (s.th t)) ∧ ∀ k e E, s.errs k = some (e, E) → (k, e) ∈ s.g.buildErr :=
  ⟨fun ⟨a, b, c⟩ => ⟨fun t => ⟨a t, b t⟩, c⟩, fun ⟨a, c⟩ => ⟨fun t => (a t).1, fun t => (a t).2, c⟩⟩

theorem Prov.thread {s : FState} (hp : Prov s) {g : Ghost} (hg : GLe s.g g) (t : Nat) : ThreadProv s.kl g (s.th t) :=
  ⟨(hp.thr t).mono hg, fun ha hc => (hp.klo t ha hc).mono hg⟩

theorem Prov.setTh {s : FState} (hp : Prov s) {g : Ghost} (hg : GLe s.g g) {t : Nat} {x : Thread}
    (hx : ThreadProv s.kl g (s.th t) → ThreadProv s.kl g x) : Prov ({ s with g := g }.setTh t x) := by
  refine prov_iff.mpr ⟨fun u => ?_, fun k e E he => hg.e _ (hp.ers k e E he)⟩
  rw [th_setTh]
  split
  · exact hx (hp.thread hg t)
  · exact hp.thread hg u

theorem Prov.electWon {s : FState} (hi : Inv s) (hp : Prov s) {g : Ghost} (hg : GLe s.g g) {t : Nat} {x : Thread}
    (hx : ThreadOK g (s.th t) → ThreadOK g x) (hown : x.owner = true) :
    Prov { ({ s with g := g }.setTh t x) with
           keyLocks := fun k => if k = x.key then some s.nextLid else s.keyLocks k,
           kl := fun m => if m = s.nextLid then {} else s.kl m,
           nextLid := s.nextLid + 1 } := by
  refine prov_iff.mpr ⟨fun u => ?_, fun k e E he => hg.e _ (hp.ers k e E he)⟩
  simp only [th_setTh]
  split
  · exact ⟨hx (hp.thread hg t).1, fun ha => by have := ha.1; simp [hown] at this⟩
  · refine ⟨(hp.thread hg u).1, fun ha hc => ?_⟩
    have hne : (s.th u).lid ≠ s.nextLid := Nat.ne_of_lt (hi.att u ha).1
    simp only [hne, if_false] at hc ⊢
    exact (hp.thread hg u).2 ha hc

theorem Prov.setTh_owner {s : FState} (hp : Prov s) {g : Ghost} (hg : GLe s.g g) {t : Nat} {x : Thread} (ho : x.owner = true)
    (hx : ThreadOK g (s.th t) → ThreadOK g x) : Prov ({ s with g := g }.setTh t x) :=
  hp.setTh hg fun h => ⟨hx h.1, fun ha => by have := ha.1; simp [ho] at this⟩

theorem Step.gle {c : FCfg} {s s' : FState} {t : Nat} {x : Thread} {l : FLabel} (h : Step c s t x l s') : GLe s.g s'.g := by
  cases h <;> refine ⟨?_, ?_, ?_, ?_⟩ <;> intro y hy <;> simp [hy]

theorem ThreadOK.done {g : Ghost} {x : Thread} (hx : ThreadOK g x) {r : GetResult} (hr : Good g x.key r) :
    ThreadOK g { x with pc := .done, returned := if x.bg then x.returned else some r } := by
  refine ⟨fun r' hr' => ?_, hx.stl, hx.rrs, hx.rre, ?_, ?_, ?_, ?_, fun hb => ?_, ?_, ?_, ?_⟩ <;> try simp
  · split at hr'
    · exact hx.ret r' hr'
    · cases hr'; exact hr
  · simpa [show x.bg = true from hb] using hx.bgr hb

theorem Prov.finish {s : FState} (hp : Prov s) {g : Ghost} (hg : GLe s.g g) {t : Nat} {r : GetResult}
    (hr : ThreadProv s.kl g (s.th t) → Good g (s.th t).key r) : Prov ({ s with g := g }.finishThread t (s.th t) r) :=
  hp.setTh hg fun h => ⟨h.1.done (hr h), by simp [Thread.attached]⟩

theorem Prov.finish_release {s : FState} (hi : Inv s) (hp : Prov s) {g : Ghost} (hg : GLe s.g g) {t : Nat} {res r : GetResult}
    (hold : (s.th t).owning) (hr : ThreadOK g (s.th t) → Good g (s.th t).key res ∧ Good g (s.th t).key r) :
    Prov (({ s with g := g }.publishRelease (s.th t).key (s.th t).lid res).finishThread t (s.th t) r) := by
  have ⟨hreg, hopen⟩ := hi.own t hold
  have hx := (hp.thread hg t).1
  refine prov_iff.mpr ⟨fun u => ?_, fun k e E he => hg.e _ (hp.ers k e E he)⟩
  rw [FState.finishThread, th_setTh, th_publishRelease]
  by_cases h : u = t
  · rw [if_pos h]; exact ⟨hx.done (hr hx).2, fun ha => by simp [Thread.attached] at ha⟩
  · rw [if_neg h]
    refine ⟨(hp.thread hg u).1, fun ha hc => ?_⟩
    simp only [setTh_kl, publishRelease_kl, setTh_g, publishRelease_g] at hc ⊢
    split at hc
    · -- the lock just released: `u` waits for `t`'s key
      rename_i hl
      have hku : (s.th u).key = (s.th t).key := by
        rcases (hi.att u ha).2 with hcl | hreg'
        · rw [hl, hopen] at hcl; cases hcl
        · exact hi.inj _ _ _ (hl ▸ hreg') hreg
      rw [hku, if_pos hl]; exact (hr hx).1
    · rw [if_neg ‹_›]; exact (hp.thread hg u).2 ha hc

theorem prov_step (c : FCfg) (s s' : FState) (l : FLabel) (hi : Inv s) (hp : Prov s) (h : step c s l = some s') : Prov s' := by
  obtain ⟨t, -, hs⟩ := step_sound h
  clear h
  have hg := hs.gle
  have owner : (s.th t).pc.ownerOnly = true → (s.th t).owner = true := hi.role t
  -- `hg` becomes `GLe s.g g'` with the new ghost record `g'` written out, as the goals have it
  cases hs <;> simp only [FState.finishThread, setTh_g, publishRelease_g] at hg
  case preHit | lockedHitWaiter => exact hp.finish hg fun _ => good_val (.inr (by simp))
  case waiterStale hr _ => exact hp.finish hg fun h => good_val (h.1.rrs _ _ hr)
  case waiterErr hr _ => exact hp.finish hg fun h => good_err _ (h.1.rre _ hr)
  case woken hpc hc => exact hp.finish hg fun h => h.2 ⟨h.1.wto hpc, .inr (.inr hpc)⟩ hc
  case lockedHitOwner hpc ho =>
    exact Prov.finish_release hi hp hg (owning_of_pc ho (.inr (.inl hpc))) fun _ =>
      ⟨good_val (.inr (by simp)), good_val (.inr (by simp))⟩
  case ownerErr hpc ho hr _ =>
    exact Prov.finish_release hi hp hg (owning_of_pc ho (.inr (.inr hpc))) fun hx =>
      ⟨good_err _ (hx.rre _ hr), good_err _ (hx.rre _ hr)⟩
  case fallback r hpc hfb =>
    simp only [FCfg.fallback_eq, Bool.and_eq_true] at hfb
    obtain ⟨v, hv⟩ := Option.isSome_iff_exists.mp hfb.2.1
    exact Prov.finish_release hi hp hg (hi.owning (by simp [hpc, Pc.ownerOnly])) fun hx => ⟨hx.fin r hpc, hv ▸ good_val (hx.stl v hv)⟩
  case finish r hpc _ =>
    exact Prov.finish_release hi hp hg (hi.owning (by simp [hpc, Pc.ownerOnly])) fun hx => ⟨hx.fin r hpc, hx.fin r hpc⟩
  case refreshFailed hpc =>
    exact Prov.finish_release hi hp hg (hi.owning (by simp [hpc, Pc.ownerOnly])) fun _ =>
      ⟨good_err _ (.inr (by simp)), good_err _ (.inr (by simp))⟩
  case errsServed hpc hhit =>
    obtain ⟨E, hE⟩ := errsHit_some hhit
    have := hg.e _ (hp.ers _ _ _ hE)
    exact Prov.finish_release hi hp hg (hi.owning (by simp [hpc, Pc.ownerOnly])) fun _ => ⟨good_err _ (.inl this), good_err _ (.inl this)⟩
  case electWon | electWonRead => exact Prov.electWon hi hp hg (fun hx => hx.goto (by simp [Thread.pcOK])) rfl
  case electLost l hpc hreg _ | electLostRead l hpc hreg _ =>
    refine hp.setTh hg fun h => ⟨h.1.goto (by simp [Thread.pcOK]), fun _ hc => ?_⟩
    -- the registered lock is still open: its owner holds it
    obtain ⟨u, hu, -, hl⟩ := hi.held _ _ hreg
    simp [← hl, (hi.own u hu).2] at hc
  case beginLock hpc _ | beginRead hpc _ =>
    refine hp.setTh hg fun h => ⟨?_, by simp [Thread.attached]⟩
    obtain ⟨h1, h2, h3, h4⟩ := h.1.idl hpc
    exact .of_pcOK (by simp [h1, h2, h3, h4]) (by simp [Thread.pcOK])
  case preMiss a hpc _ | lockedMiss a hpc _ =>
    -- what the answer carries is in the lists now; a waiter stays attached to the same lock
    refine hp.setTh hg fun h => ⟨.of_pcOK ⟨h.1.ret, h.1.stl, ?_, ?_, h.1.bgr⟩ (by simp [Thread.pcOK]),
      fun ha => h.2 ⟨ha.1, by simp [Thread.attached, hpc] at ha ⊢⟩⟩
    · rintro v since rfl; exact .inr (by simp)
    · rintro e rfl; exact .inr (by simp)
  case waiterWait hpc ho _ _ =>
    exact hp.setTh hg fun h => ⟨h.1.goto (by simp [Thread.pcOK, ho]), fun _ => h.2 ⟨ho, .inr (.inl hpc)⟩⟩
  -- the stale value an owner keeps was read from the backend
  case refresh v since hpc ho hr _ | tooStale v since hpc ho hr _ =>
    exact hp.setTh_owner hg ho fun hx =>
      .of_pcOK ⟨hx.ret, by rintro _ ⟨⟩; exact hx.rrs v since hr, hx.rrs, hx.rre, hx.bgr⟩ (by simp [Thread.pcOK])
  case ownerMiss hpc ho _ _ =>
    exact hp.setTh_owner hg ho fun hx => .of_pcOK ⟨hx.ret, by rintro _ ⟨⟩, hx.rrs, hx.rre, hx.bgr⟩ (by simp [Thread.pcOK])
  -- what a background build returns at once is the stale value (there is one: the read error was nil)
  case bgBuild hpc hsync =>
    refine hp.setTh_owner hg (owner (by simp [hpc, Pc.ownerOnly])) fun hx => ?_
    simp only [FCfg.syncCond_eq, Bool.or_eq_false_iff] at hsync
    obtain ⟨v, hv⟩ := Option.isSome_iff_exists.mp (hx.frs (.inr hpc) hsync.2)
    exact .of_pcOK ⟨by rintro _ ⟨⟩; exact hv ▸ good_val (hx.stl v hv), hx.stl, hx.rrs, hx.rre, by simp⟩ (by simp [Thread.pcOK])
  -- every later position asks only for what the step itself has just put into the lists or what the previous one held
  case errsWritten e E hpc =>
    have hp' : Prov { s with errs := fun k => if k = (s.th t).key then some (e, E) else s.errs k } :=
      ⟨hp.thr, hp.klo, fun k e' E' h => by
        simp only at h; split at h
        · cases h; exact ‹k = _› ▸ (hp.thr t).ste e hpc
        · exact hp.ers k e' E' h⟩
    exact hp'.setTh_owner hg (owner (by simp [hpc, Pc.ownerOnly])) fun hx =>
      hx.goto (by simpa [Thread.pcOK] using good_err _ (.inl (hx.ste e hpc)))
  case errsMiss hpc _ =>
    exact hp.setTh_owner hg (owner (by simp [hpc, Pc.ownerOnly])) fun hx => hx.goto (by simpa [Thread.pcOK] using hx.frs (.inl hpc))
  case syncBuild hpc _ | refreshed hpc | stored hpc | storeFailed hpc | built hpc | buildFailedCached hpc _ | buildFailed hpc _ =>
    exact hp.setTh_owner hg (owner (by simp [hpc, Pc.ownerOnly])) fun hx =>
      -- `hx.rfs` serves `refreshed` (`checkErrs` with a nil read error asks for a stale value), `hx.sto` serves `stored`
      hx.goto (by simp [Thread.pcOK, Good, GoodErr, GoodVal, hx.rfs, hx.sto, hpc])

theorem reachable_prov {c : FCfg} {s : FState} (h : Reachable c s) : Prov s :=
  (h.induction (P := fun s => Inv s ∧ Prov s) ⟨inv_init, prov_init⟩ fun s s' l hp hs =>
    ⟨inv_step c s s' l hp.1 hs, prov_step c s s' l hp.1 hp.2 hs⟩).2

end Cache
