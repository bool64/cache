import CacheModel.Linz

/-
  What the C08 proofs use of the checker's functions (`replay`, `respectsRealTime`, `checkWitness`, `tryEach`), and the two
  facts about plain lists they need that core does not have.
-/
namespace Cache.Linz

theorem idxOf?_eq_some_iff_of_nodup {l : List Nat} (hnd : l.Nodup) {x i : Nat} : l.idxOf? x = some i ↔ l[i]? = some x := by
  rw [List.idxOf?_eq_some_iff, List.getElem?_eq_some_iff]
  exact exists_congr fun hi => and_iff_left_of_imp fun hx j hj h => by
    have := (List.getElem_inj hnd).1 (h.trans hx.symm); omega

theorem subset_of_nodup_of_length_le {l₁ l₂ : List Nat} (hnd : l₁.Nodup) (hsub : l₁ ⊆ l₂) (hlen : l₂.length ≤ l₁.length) :
    l₂ ⊆ l₁ := by
  intro i hi
  apply Classical.byContradiction
  intro hni
  have h1 := hnd.length_le_of_subset (l₂ := l₂.erase i) fun x hx =>
    (List.mem_erase_of_ne fun (h : x = i) => hni (h ▸ hx)).2 (hsub hx)
  have h2 := List.length_pos_of_mem hi
  simp only [List.length_erase, hi, if_true] at h1
  omega

theorem find?_id {evs : List Event} (hnd : (evs.map (·.id)).Nodup) {e : Event} (he : e ∈ evs) :
    evs.find? (·.id == e.id) = some e := by
  induction evs with
  | nil => cases he
  | cons x rest ih =>
    rw [List.map_cons, List.nodup_cons] at hnd
    rw [List.find?_cons]
    rcases List.mem_cons.1 he with rfl | h
    · simp
    · have : (x.id == e.id) = false := beq_false_of_ne fun heq => hnd.1 (heq ▸ List.mem_map_of_mem h)
      rw [this]
      exact ih hnd.2 h

theorem replay_cons {evs : List Event} (hnd : (evs.map (·.id)).Nodup) {e : Event} (he : e ∈ evs) (s : Store)
    (rest : List Nat) :
    replay evs s (e.id :: rest) = ((apply s e.op).2 == e.res && replay evs (apply s e.op).1 rest) := by
  rw [replay, find?_id hnd he]

theorem respectsRealTime_iff {evs : List Event} {w : List Nat} :
    respectsRealTime evs w = true ↔
      ∀ a ∈ evs, ∀ b ∈ evs, a.ret < b.inv → ∃ ia ib, w.idxOf? a.id = some ia ∧ w.idxOf? b.id = some ib ∧ ia < ib := by
  simp only [respectsRealTime, List.all_eq_true, Bool.or_eq_true, Bool.not_eq_true', decide_eq_false_iff_not]
  refine forall₂_congr fun a _ => forall₂_congr fun b _ => ?_
  cases w.idxOf? a.id <;> cases w.idxOf? b.id <;> simp [Decidable.or_iff_not_imp_left]

theorem checkWitness_iff {init : Store} {evs : List Event} {w : List Nat} :
    checkWitness init evs w = true ↔
      w.length = evs.length ∧ w.Nodup ∧ (∀ e ∈ evs, e.id ∈ w) ∧
      (∀ a ∈ evs, ∀ b ∈ evs, a.ret < b.inv → ∃ ia ib, w.idxOf? a.id = some ia ∧ w.idxOf? b.id = some ib ∧ ia < ib) ∧
      replay evs init w = true := by
  simp only [checkWitness, Bool.and_eq_true, beq_iff_eq, decide_eq_true_eq, List.all_eq_true, List.contains_iff_mem,
    respectsRealTime_iff, and_assoc]

theorem tryEach_ne_notFound {f : Event → Nat → SRes × Nat} {e : Event} (he : ∀ b, (f e b).1 ≠ .notFound)
    {l : List Event} {b : Nat} (hm : e ∈ l) : (tryEach f l b).1 ≠ .notFound := by
  fun_induction tryEach f l b with
  | case1 => cases hm
  | case2 | case3 | case4 => simp [*]  -- budget exhausted, or the head is found / exhausts
  | case5 x rest b hb b' hr ih =>  -- the head answers notFound: on to the rest
    rcases hm with _ | ⟨_, h⟩
    · exact absurd (by rw [hr]) (he (b - 1))
    · exact ih h

end Cache.Linz
