import CacheProofs.Lemmas.FState

/- `step` as a transition relation: `Step` has one rule per branch of `step`, with the branch conditions as hypotheses, and
   every step taken is one of them (`step_sound`); a proof about a step goes by cases on its rule and does not open `step`. -/
namespace Cache

/-- The failure-cache lookup of `errsRead`. -/
def errsHit (c : FCfg) (x : Thread) (cached : Option (Err × Time)) (now : Time) : Option Err :=
  if c.errCache && !x.skipRead then
    match cached with
    | some (e, E) => if Gen.isExpired E now then none else some e
    | none => none
  else none

theorem errsHit_some {c : FCfg} {x : Thread} {cached : Option (Err × Time)} {now : Time} {e : Err}
    (h : errsHit c x cached now = some e) : ∃ E, cached = some (e, E) := by
  obtain _ | ⟨e', E⟩ := cached <;> simp [errsHit] at h
  exact ⟨E, by simp [h]⟩

/-- Thread `t`, which is at `x = s.th t`, takes the step. Every target state is `{ s with g := … }` (with `errs` too in
    `errsWritten`) followed by `setTh t` or `finishThread t`, with a `publishRelease` before it where the owner releases and
    the new lock's record around it where the election is won, so that a proof meets one of three shapes, whatever the step
    does to the ghost fields. -/
inductive Step (c : FCfg) (s : FState) (t : Nat) (x : Thread) : FLabel → FState → Prop
  | beginLock (key skip cell) : x.pc = .idle → c.syncRead = true →
      Step c s t x (.begin t key skip cell) (s.setTh t { x with key := key, skipRead := skip, cell := cell, pc := .wantLock })
  | beginRead (key skip cell) : x.pc = .idle → c.syncRead = false →
      Step c s t x (.begin t key skip cell)
        ({ s with g := { s.g with requests := (t, .read key skip) :: s.g.requests } }.setTh t
          { x with key := key, skipRead := skip, cell := cell, pc := .preRead })
  | preHit (v) : x.pc = .preRead →
      Step c s t x (.readAns t (.hit v))
        ({ s with g := { s.g with backendVals := (x.key, v) :: s.g.backendVals } }.finishThread t x ⟨some v, none⟩)
  | preMiss (a) : x.pc = .preRead → (∀ v, a ≠ .hit v) →
      Step c s t x (.readAns t a) ({ s with g := (s.noteRead x.key a).g }.setTh t { x with pc := .wantLock, readRes := a })
  | lockedHitOwner (v) : x.pc = .lockedRead → x.owner = true →
      Step c s t x (.readAns t (.hit v))
        (({ s with g := { s.g with backendVals := (x.key, v) :: s.g.backendVals } }.publishRelease x.key x.lid
          ⟨some v, none⟩).finishThread t x ⟨some v, none⟩)
  | lockedHitWaiter (v) : x.pc = .lockedRead → x.owner = false →
      Step c s t x (.readAns t (.hit v))
        ({ s with g := { s.g with backendVals := (x.key, v) :: s.g.backendVals } }.finishThread t x ⟨some v, none⟩)
  | lockedMiss (a) : x.pc = .lockedRead → (∀ v, a ≠ .hit v) →
      Step c s t x (.readAns t a) ({ s with g := (s.noteRead x.key a).g }.setTh t { x with pc := .classify, readRes := a })
  | electWon : x.pc = .wantLock → s.keyLocks x.key = none → c.syncRead = false →
      Step c s t x (.elect t)
        { (s.setTh t { x with pc := .classify, owner := true, lid := s.nextLid }) with
          keyLocks := fun k => if k = x.key then some s.nextLid else s.keyLocks k,
          kl := fun m => if m = s.nextLid then {} else s.kl m,
          nextLid := s.nextLid + 1 }
  | electWonRead : x.pc = .wantLock → s.keyLocks x.key = none → c.syncRead = true →
      Step c s t x (.elect t)
        { ({ s with g := { s.g with requests := (t, .read x.key x.skipRead) :: s.g.requests } }.setTh t
            { x with pc := .lockedRead, owner := true, lid := s.nextLid }) with
          keyLocks := fun k => if k = x.key then some s.nextLid else s.keyLocks k,
          kl := fun m => if m = s.nextLid then {} else s.kl m,
          nextLid := s.nextLid + 1 }
  | electLost (l) : x.pc = .wantLock → s.keyLocks x.key = some l → c.syncRead = false →
      Step c s t x (.elect t) (s.setTh t { x with pc := .classify, owner := false, lid := l })
  | electLostRead (l) : x.pc = .wantLock → s.keyLocks x.key = some l → c.syncRead = true →
      Step c s t x (.elect t)
        ({ s with g := { s.g with requests := (t, .read x.key x.skipRead) :: s.g.requests } }.setTh t
          { x with pc := .lockedRead, owner := false, lid := l })
  | waiterStale (v since) : x.pc = .classify → x.owner = false → x.readRes = .stale v since → c.freshEnough since = true →
      Step c s t x (.local t) (s.finishThread t x ⟨some v, none⟩)
  | waiterErr (e) : x.pc = .classify → x.owner = false → x.readRes = .err e → c.variant = .failover →
      Step c s t x (.local t) (s.finishThread t x ⟨none, some e⟩)
  | waiterWait : x.pc = .classify → x.owner = false →
      (∀ v since, x.readRes = .stale v since → c.freshEnough since = false) →
      (∀ e, x.readRes = .err e → c.variant = .failoverOf) →
      Step c s t x (.local t) (s.setTh t { x with pc := .waiting })
  | refresh (v since) : x.pc = .classify → x.owner = true → x.readRes = .stale v since → c.freshEnough since = true →
      Step c s t x (.local t)
        ({ s with g := { s.g with refreshed := s.g.refreshed + 1, requests :=
            (t, .write x.key v (if c.refreshUpdateExisting then
              (match x.cell with | some e => ttlUpdate e c.updateTTL | none => c.updateTTL) else c.updateTTL)) :: s.g.requests } }.setTh t
          { x with pc := .refreshing, stale := some v,
                   cell := if c.refreshUpdateExisting then x.cell.map (fun e => ttlUpdate e c.updateTTL) else x.cell })
  | tooStale (v since) : x.pc = .classify → x.owner = true → x.readRes = .stale v since → c.freshEnough since = false →
      Step c s t x (.local t) (s.setTh t { x with pc := .checkErrs, stale := some v, errNonNil := true })
  | ownerErr (e) : x.pc = .classify → x.owner = true → x.readRes = .err e → c.variant = .failover →
      Step c s t x (.local t) ((s.publishRelease x.key x.lid ⟨none, some e⟩).finishThread t x ⟨none, some e⟩)
  | ownerMiss : x.pc = .classify → x.owner = true → (∀ v since, x.readRes ≠ .stale v since) →
      (∀ e, x.readRes = .err e → c.variant = .failoverOf) →
      Step c s t x (.local t) (s.setTh t { x with pc := .checkErrs, stale := none, errNonNil := true })
  | syncBuild : x.pc = .decideSync → c.syncCond x.errNonNil = true →
      Step c s t x (.local t)
        ({ s with g := { s.g with buildCalls := s.g.buildCalls + 1, requests := (t, .build x.key false) :: s.g.requests } }.setTh t
          { x with pc := .building, detached := false })
  | bgBuild : x.pc = .decideSync → c.syncCond x.errNonNil = false →
      Step c s t x (.local t)
        ({ s with g := { s.g with buildCalls := s.g.buildCalls + 1, requests := (t, .build x.key true) :: s.g.requests } }.setTh t
          { x with pc := .building, detached := true, bg := true, returned := some ⟨x.stale, none⟩ })
  | fallback (r) : x.pc = .finish r → (!x.bg && r.err.isSome && c.fallback x.stale.isSome) = true →
      Step c s t x (.local t) ((s.publishRelease x.key x.lid r).finishThread t x ⟨x.stale, none⟩)
  | finish (r) : x.pc = .finish r → (!x.bg && r.err.isSome && c.fallback x.stale.isSome) = false →
      Step c s t x (.local t) ((s.publishRelease x.key x.lid r).finishThread t x r)
  | refreshFailed (e) : x.pc = .refreshing →
      Step c s t x (.writeAns t (.err e))
        (({ s with g := { s.g with backendErrs := (x.key, e) :: s.g.backendErrs } }.publishRelease x.key x.lid
          ⟨none, some e⟩).finishThread t x ⟨none, some e⟩)
  | refreshed : x.pc = .refreshing →
      Step c s t x (.writeAns t .ok) (s.setTh t { x with pc := .checkErrs, errNonNil := false })
  | storeFailed (v e) : x.pc = .storing v →
      Step c s t x (.writeAns t (.err e))
        ({ s with g := { s.g with backendErrs := (x.key, e) :: s.g.backendErrs, builds := s.g.builds + 1 } }.setTh t
          { x with pc := .finish ⟨none, some e⟩ })
  | stored (v) : x.pc = .storing v →
      Step c s t x (.writeAns t .ok)
        ({ s with g := { s.g with builds := s.g.builds + 1 } }.setTh t { x with pc := .finish ⟨some v, none⟩ })
  | errsServed (now e) : x.pc = .checkErrs → errsHit c x (s.errs x.key) now = some e →
      Step c s t x (.errsRead t now)
        ((s.publishRelease x.key x.lid ⟨none, some e⟩).finishThread t x
          ⟨match c.variant with | .failover => none | .failoverOf => x.stale, some e⟩)
  | errsMiss (now) : x.pc = .checkErrs → errsHit c x (s.errs x.key) now = none →
      Step c s t x (.errsRead t now) (s.setTh t { x with pc := .decideSync })
  | built (v ups) : x.pc = .building →
      Step c s t x (.buildAns t (.ok v ups))
        ({ s with g := { s.g with builtOk := (x.key, v) :: s.g.builtOk, requests :=
            (t, .write x.key v ((x.cell.map (fun e => ups.foldl ttlUpdate e)).getD 0)) :: s.g.requests } }.setTh t
          { x with cell := x.cell.map (fun e => ups.foldl ttlUpdate e), pc := .storing v })
  | buildFailedCached (e ups) : x.pc = .building → c.errCache = true →
      Step c s t x (.buildAns t (.err e ups))
        ({ s with g := { s.g with buildErr := (x.key, e) :: s.g.buildErr, failed := s.g.failed + 1 } }.setTh t
          { x with cell := x.cell.map (fun e => ups.foldl ttlUpdate e), pc := .storeErr e })
  | buildFailed (e ups) : x.pc = .building → c.errCache = false →
      Step c s t x (.buildAns t (.err e ups))
        ({ s with g := { s.g with buildErr := (x.key, e) :: s.g.buildErr, failed := s.g.failed + 1, builds := s.g.builds + 1 } }.setTh t
          { x with cell := x.cell.map (fun e => ups.foldl ttlUpdate e), pc := .finish ⟨none, some e⟩ })
  | errsWritten (e E) : x.pc = .storeErr e →
      Step c s t x (.errsWrite t E)
        ({ s with errs := fun k => if k = x.key then some (e, E) else s.errs k,
                   g := { s.g with builds := s.g.builds + 1, requests :=
                     (t, .errWrite x.key e (if c.errsWriteResetsTTL then 0 else x.storeTTL)) :: s.g.requests } }.setTh t
          { x with pc := .finish ⟨none, some e⟩ })
  | woken : x.pc = .waiting → (s.kl x.lid).closed = true →
      Step c s t x (.wake t) (s.finishThread t x ⟨(s.kl x.lid).val, (s.kl x.lid).err⟩)

/-- The stepping thread is a variable `t` of its own, not `l.thread`, so that `cases` on the `Step` can substitute `l`. -/
theorem step_sound {c : FCfg} {s s' : FState} {l : FLabel} (h : step c s l = some s') :
    ∃ t, l.thread = t ∧ Step c s t (s.th t) l s' := by
  refine ⟨_, rfl, ?_⟩
  cases l <;> dsimp only [FLabel.thread]
  case begin t key skip cell =>
    simp only [step, bne_iff_ne, ne_eq, ite_not] at h
    split at h
    · split at h <;> cases h
      · exact .beginLock _ _ _ ‹_› ‹_›
      · exact .beginRead _ _ _ ‹_› (Bool.eq_false_iff.mpr ‹_›)
    · cases h
  case readAns t a =>
    simp only [step] at h
    split at h
    · split at h <;> cases h
      · exact .preHit _ ‹_›
      · exact .preMiss _ ‹_› (fun v hv => by simp_all)
    · split at h <;> cases h
      · cases ho : (s.th t).owner
        · exact .lockedHitWaiter _ ‹_› ho
        · exact .lockedHitOwner _ ‹_› ho
      · exact .lockedMiss _ ‹_› (fun v hv => by simp_all)
    · cases h
  case elect t =>
    simp only [step, bne_iff_ne, ne_eq, ite_not] at h
    split at h
    · cases hk : s.keyLocks (s.th t).key <;> simp only [hk] at h <;> split at h <;> cases h
      · exact .electWonRead ‹_› hk ‹_›
      · exact .electWon ‹_› hk (Bool.eq_false_iff.mpr ‹_›)
      · exact .electLostRead _ ‹_› hk ‹_›
      · exact .electLost _ ‹_› hk (Bool.eq_false_iff.mpr ‹_›)
    · cases h
  case «local» t =>
    simp only [step] at h
    split at h
    · split at h
      · have ho : (s.th t).owner = false := by simpa using ‹(!(s.th t).owner) = true›
        split at h
        · split at h <;> cases h
          · exact .waiterStale _ _ ‹_› ho ‹_› ‹_›
          · exact .waiterWait ‹_› ho (by simp_all) (by simp_all)
        · split at h <;> cases h
          · exact .waiterErr _ ‹_› ho ‹_› ‹_›
          · exact .waiterWait ‹_› ho (by simp_all) (by simp_all)
        · cases h; exact .waiterWait ‹_› ho (by simp_all) (by simp_all)
      · have ho : (s.th t).owner = true := by simpa using ‹¬ (!(s.th t).owner) = true›
        split at h
        · split at h <;> cases h
          · -- `step` wraps the whole thread record in `if c.refreshUpdateExisting`, the rule only the `cell` field: equal per flag
            have := Step.refresh (c := c) (s := s) (t := t) _ _ ‹_› ho ‹_› ‹_›
            cases hr : c.refreshUpdateExisting <;> simp only [hr, if_true, Bool.false_eq_true, if_false] at this <;> exact this
          · exact .tooStale _ _ ‹_› ho ‹_› (Bool.eq_false_iff.mpr ‹_›)
        · split at h <;> cases h
          · exact .ownerErr _ ‹_› ho ‹_› ‹_›
          · exact .ownerMiss ‹_› ho (by simp_all) (by simp_all)
        · cases h; exact .ownerMiss ‹_› ho (by simp_all) (by simp_all)
    · split at h <;> cases h
      · exact .syncBuild ‹_› ‹_›
      · exact .bgBuild ‹_› (Bool.eq_false_iff.mpr ‹_›)
    · split at h <;> cases h
      · exact .fallback _ ‹_› ‹_›
      · exact .finish _ ‹_› (Bool.eq_false_iff.mpr ‹_›)
    · cases h
  case writeAns t a =>
    simp only [step] at h
    split at h
    · split at h <;> cases h
      · exact .refreshFailed _ ‹_›
      · exact .refreshed ‹_›
    · split at h <;> cases h
      · exact .storeFailed _ _ ‹_›
      · exact .stored _ ‹_›
    · cases h
  case errsRead t now =>
    simp only [step, bne_iff_ne, ne_eq, ite_not] at h
    split at h
    · split at h <;> cases h
      · exact .errsServed _ _ ‹_› ‹_›
      · exact .errsMiss _ ‹_› ‹_›
    · cases h
  case buildAns t a =>
    simp only [step, bne_iff_ne, ne_eq, ite_not] at h
    split at h
    · split at h
      · cases h; exact .built _ _ ‹_›
      · split at h <;> cases h
        · exact .buildFailedCached _ _ ‹_› ‹_›
        · exact .buildFailed _ _ ‹_› (Bool.eq_false_iff.mpr ‹_›)
    · cases h
  case errsWrite t E =>
    simp only [step] at h
    split at h
    · cases h; exact .errsWritten _ _ ‹_›
    · cases h
  case wake t =>
    simp only [step, bne_iff_ne, ne_eq, ite_not] at h
    split at h
    · split at h <;> cases h
      exact .woken ‹_› ‹_›
    · cases h

theorem Step.frame {c : FCfg} {s s' : FState} {t : Nat} {x : Thread} {l : FLabel} (hs : Step c s t x l s') {u : Nat}
    (hu : u ≠ t) : s'.th u = s.th u := by
  cases hs <;> simp [hu]

end Cache
