import CacheProofs.Lemmas.Step

/- The lock invariant `Inv` of the Failover machine: who owns which key lock, and which lock a waiter is attached to. A step
   changes the lock table in one of three ways: not at all (`Inv.move`), the owner releases (`Inv.release`), an election is won
   (`Inv.electWon`); `inv_step` sends every rule of `Step` to one of the three. -/
namespace Cache

/-- Program positions at which a thread that won the election still owns its key lock. -/
def Thread.owning (x : Thread) : Prop :=
  x.owner = true ∧ (x.pc = .lockedRead ∨ x.pc = .classify ∨ x.pc = .refreshing ∨ x.pc = .checkErrs ∨ x.pc = .decideSync ∨
    x.pc = .building ∨ (∃ e, x.pc = .storeErr e) ∨ (∃ v, x.pc = .storing v) ∨ (∃ r, x.pc = .finish r))

/-- Positions at which a thread that lost the election refers to somebody else's lock. -/
def Thread.attached (x : Thread) : Prop :=
  x.owner = false ∧ (x.pc = .lockedRead ∨ x.pc = .classify ∨ x.pc = .waiting)

/-- Positions only an owner can reach. -/
def Pc.ownerOnly : Pc → Bool
  | .refreshing | .checkErrs | .decideSync | .building | .storeErr _ | .storing _ | .finish _ => true
  | _ => false

/- `own`: an owning thread's key is registered to its lock record, and that record is open. `fresh`: registered lids are
   allocated. `held`: a registered lock has an owning thread. `uniq`: one owner per key. `inj`: one key per registered lid.
   `role`: only an owner reaches an owner-only position. `att`: the record a waiter refers to is allocated, and is closed
   (its result is published) or still registered for the waiter's key. -/
structure Inv (s : FState) : Prop where
  own : ∀ t, (s.th t).owning → s.keyLocks (s.th t).key = some (s.th t).lid ∧ (s.kl (s.th t).lid).closed = false
  fresh : ∀ k l, s.keyLocks k = some l → l < s.nextLid
  held : ∀ k l, s.keyLocks k = some l → ∃ t, (s.th t).owning ∧ (s.th t).key = k ∧ (s.th t).lid = l
  uniq : ∀ t u, (s.th t).owning → (s.th u).owning → (s.th t).key = (s.th u).key → t = u
  inj : ∀ k k' l, s.keyLocks k = some l → s.keyLocks k' = some l → k = k'
  role : ∀ t, (s.th t).pc.ownerOnly = true → (s.th t).owner = true
  att : ∀ t, (s.th t).attached →
    (s.th t).lid < s.nextLid ∧ ((s.kl (s.th t).lid).closed = true ∨ s.keyLocks (s.th t).key = some (s.th t).lid)

theorem inv_init : Inv FState.init := by
  refine ⟨?_, ?_, ?_, ?_, ?_, ?_, ?_⟩ <;> intros <;> simp_all [FState.init, Thread.owning, Thread.attached, Pc.ownerOnly]

theorem Thread.owning_iff {x : Thread} :
    x.owning ↔ x.owner = true ∧ (x.pc.ownerOnly = true ∨ x.pc = .lockedRead ∨ x.pc = .classify) := by
  cases h : x.pc <;> simp [Thread.owning, Pc.ownerOnly, h]

theorem owning_of_pc {x : Thread} (ho : x.owner = true) (h : x.pc.ownerOnly = true ∨ x.pc = .lockedRead ∨ x.pc = .classify) : x.owning :=
  Thread.owning_iff.mpr ⟨ho, h⟩

theorem Inv.owning {s : FState} (hi : Inv s) {t : Nat} (h : (s.th t).pc.ownerOnly = true) : (s.th t).owning :=
  owning_of_pc (hi.role t h) (.inl h)

@[simp] theorem inv_errs_g {s : FState} {e : Key → Option (Err × Time)} {g : Ghost} : Inv { s with errs := e, g := g } ↔ Inv s :=
  ⟨fun ⟨a, b, c, d, e, f, g⟩ => ⟨a, b, c, d, e, f, g⟩, fun ⟨a, b, c, d, e, f, g⟩ => ⟨a, b, c, d, e, f, g⟩⟩

/-- The stepping thread changes, the lock table does not. `h`: the thread owns iff it did; an owner keeps key and lid; a
    thread attached afterwards was attached to the same lock before, or attaches to the lock registered for its key; `role`.
    One conjunction, so that in `inv_step` one `simp` with the rule's hypotheses discharges it. -/
theorem Inv.move {s : FState} (hi : Inv s) {t : Nat} {x' : Thread}
    (h : (x'.owning ↔ (s.th t).owning) ∧ (x'.owning → x'.key = (s.th t).key ∧ x'.lid = (s.th t).lid) ∧
      (x'.attached → ((s.th t).attached ∧ x'.key = (s.th t).key ∧ x'.lid = (s.th t).lid) ∨ s.keyLocks x'.key = some x'.lid) ∧
      (x'.pc.ownerOnly = true → x'.owner = true)) : Inv (s.setTh t x') := by
  obtain ⟨hown, hkl, hatt, hrole⟩ := h
  have new : x'.owning → (s.th t).owning ∧ x'.key = (s.th t).key ∧ x'.lid = (s.th t).lid := fun h => ⟨hown.mp h, hkl h⟩
  refine ⟨?_, hi.fresh, ?_, ?_, hi.inj, ?_, ?_⟩
  · intro u hu
    by_cases h : u = t
    · subst h
      rw [setTh_th_same] at hu ⊢
      obtain ⟨ho, hk, hl⟩ := new hu
      simp only [setTh_keyLocks, setTh_kl, hk, hl]; exact hi.own u ho
    · rw [setTh_th_other h] at hu ⊢; exact hi.own u hu
  · intro k l hreg
    obtain ⟨u, hu, hk, hl⟩ := hi.held k l hreg
    refine ⟨u, ?_⟩
    by_cases h : u = t
    · subst h
      rw [setTh_th_same]
      have h' := hown.mpr hu
      exact ⟨h', (hkl h').1.trans hk, (hkl h').2.trans hl⟩
    · rw [setTh_th_other h]; exact ⟨hu, hk, hl⟩
  · intro u v hu hv hkk
    by_cases h1 : u = t <;> by_cases h2 : v = t
    · rw [h1, h2]
    · subst h1
      rw [setTh_th_same] at hu hkk; rw [setTh_th_other h2] at hv hkk
      exact hi.uniq u v (new hu).1 hv ((new hu).2.1 ▸ hkk)
    · subst h2
      rw [setTh_th_same] at hv hkk; rw [setTh_th_other h1] at hu hkk
      exact hi.uniq u v hu (new hv).1 ((new hv).2.1 ▸ hkk)
    · rw [setTh_th_other h1] at hu hkk; rw [setTh_th_other h2] at hv hkk
      exact hi.uniq u v hu hv hkk
  · intro u hu
    by_cases h : u = t
    · subst h; rw [setTh_th_same] at hu ⊢; exact hrole hu
    · rw [setTh_th_other h] at hu ⊢; exact hi.role u hu
  · intro u hu
    by_cases h : u = t
    · subst h
      rw [setTh_th_same] at hu ⊢
      simp only [setTh_keyLocks, setTh_kl, setTh_nextLid]
      rcases hatt hu with ⟨ha, hk, hl⟩ | hreg
      · rw [hk, hl]; exact hi.att u ha
      · exact ⟨hi.fresh _ _ hreg, Or.inr hreg⟩
    · rw [setTh_th_other h] at hu ⊢; exact hi.att u hu

theorem Inv.release {s : FState} (hi : Inv s) {t : Nat} {x' : Thread} {r : GetResult}
    (hold : (s.th t).owning) (hnew : ¬ x'.owning) (hatt : ¬ x'.attached) (hrole : x'.pc.ownerOnly = true → x'.owner = true) :
    Inv ((s.publishRelease (s.th t).key (s.th t).lid r).setTh t x') := by
  have ⟨hreg, _⟩ := hi.own t hold
  have other : ∀ {u}, u ≠ t → ((s.publishRelease (s.th t).key (s.th t).lid r).setTh t x').th u = s.th u :=
    fun h => setTh_th_other h
  have owners : ∀ u, u ≠ t → (s.th u).owning → (s.th u).key ≠ (s.th t).key ∧ (s.th u).lid ≠ (s.th t).lid := by
    intro u hut hu
    have hne : (s.th u).key ≠ (s.th t).key := fun hk => hut (hi.uniq u t hu hold hk)
    exact ⟨hne, fun hl => hne (hi.inj _ _ _ (hl ▸ (hi.own u hu).1) hreg)⟩
  refine ⟨?_, ?_, ?_, ?_, ?_, ?_, ?_⟩
  · intro u hu
    by_cases h : u = t
    · subst h; rw [setTh_th_same] at hu; exact absurd hu hnew
    · rw [other h] at hu ⊢
      have ⟨hk, hl⟩ := owners u h hu
      simp only [setTh_keyLocks, setTh_kl, publishRelease_keyLocks, publishRelease_kl, hk, hl, if_false]
      exact hi.own u hu
  · intro k l h
    simp only [setTh_keyLocks, publishRelease_keyLocks] at h
    split at h
    · cases h
    · exact hi.fresh k l h
  · intro k l h
    simp only [setTh_keyLocks, publishRelease_keyLocks] at h
    split at h
    · cases h
    · obtain ⟨u, hu, hk, hl⟩ := hi.held k l h
      have : u ≠ t := fun hut => ‹¬ k = _› (hut ▸ hk).symm
      exact ⟨u, by rw [other this]; exact ⟨hu, hk, hl⟩⟩
  · intro u v hu hv hkk
    by_cases h1 : u = t
    · subst h1; rw [setTh_th_same] at hu; exact absurd hu hnew
    · by_cases h2 : v = t
      · subst h2; rw [setTh_th_same] at hv; exact absurd hv hnew
      · rw [other h1] at hu hkk; rw [other h2] at hv hkk
        exact hi.uniq u v hu hv hkk
  · intro k k' l h1 h2
    simp only [setTh_keyLocks, publishRelease_keyLocks] at h1 h2
    split at h1
    · cases h1
    · split at h2
      · cases h2
      · exact hi.inj k k' l h1 h2
  · intro u hu
    by_cases h : u = t
    · subst h; rw [setTh_th_same] at hu ⊢; exact hrole hu
    · rw [other h] at hu ⊢; exact hi.role u hu
  · intro u hu
    by_cases h : u = t
    · subst h; rw [setTh_th_same] at hu; exact absurd hu hatt
    · rw [other h] at hu ⊢
      have ⟨hlt, hor⟩ := hi.att u hu
      refine ⟨hlt, ?_⟩
      by_cases hl : (s.th u).lid = (s.th t).lid
      · simp [hl]
      · rcases hor with hc | hreg'
        · simp [hl, hc]
        · have hk : (s.th u).key ≠ (s.th t).key := fun hk => hl (Option.some.inj ((hk ▸ hreg').symm.trans hreg))
          simp [hl, hk, hreg']

theorem Inv.electWon {s : FState} (hi : Inv s) {t : Nat} {x' : Thread}
    (hold : ¬ (s.th t).owning) (hfree : s.keyLocks x'.key = none) (hnew : x'.owning) (hl : x'.lid = s.nextLid) :
    Inv { (s.setTh t x') with
          keyLocks := fun k => if k = x'.key then some s.nextLid else s.keyLocks k,
          kl := fun m => if m = s.nextLid then {} else s.kl m,
          nextLid := s.nextLid + 1 } := by
  have hxatt : ¬ x'.attached := fun h => by have := h.1; simp [hnew.1] at this
  have owners : ∀ u, (s.th u).owning → (s.th u).key ≠ x'.key ∧ (s.th u).lid ≠ s.nextLid := by
    intro u hu
    have h1 := (hi.own u hu).1
    exact ⟨fun hk => (by rw [hk, hfree] at h1; cases h1), Nat.ne_of_lt (hi.fresh _ _ h1)⟩
  refine ⟨?_, ?_, ?_, ?_, ?_, ?_, ?_⟩
  · intro u hu
    simp only [th_setTh] at hu ⊢
    by_cases h : u = t
    · simp [h, hl]
    · simp only [h, if_false] at hu ⊢
      simp [owners u hu, hi.own u hu]
  · intro k l h
    simp only at h ⊢
    split at h
    · cases h; omega
    · have := hi.fresh k l h; omega
  · intro k l h
    simp only at h
    split at h
    · cases h; exact ⟨t, by simpa using hnew, by simp [*], by simp [hl]⟩
    · obtain ⟨u, hu, hk, hl'⟩ := hi.held k l h
      have : u ≠ t := fun hut => hold (hut ▸ hu)
      exact ⟨u, by simpa [this] using hu, by simpa [this] using hk, by simpa [this] using hl'⟩
  · intro u v hu hv hkk
    simp only [th_setTh] at hu hv hkk
    by_cases h1 : u = t <;> by_cases h2 : v = t
    · rw [h1, h2]
    · simp only [h1, h2, if_true, if_false] at hv hkk; exact absurd hkk.symm (owners v hv).1
    · simp only [h1, h2, if_true, if_false] at hu hkk; exact absurd hkk (owners u hu).1
    · simp only [h1, h2, if_false] at hu hv hkk; exact hi.uniq u v hu hv hkk
  · intro k k' l h1 h2
    simp only at h1 h2
    split at h1 <;> split at h2
    · simp [*]
    · cases h1; have := hi.fresh _ _ h2; omega
    · cases h2; have := hi.fresh _ _ h1; omega
    · exact hi.inj k k' l h1 h2
  · intro u hu
    simp only [th_setTh] at hu ⊢
    by_cases h : u = t
    · simp only [h, if_true]; exact hnew.1
    · simp only [h, if_false] at hu ⊢; exact hi.role u hu
  · intro u hu
    simp only [th_setTh] at hu ⊢
    by_cases h : u = t
    · simp only [h, if_true] at hu; exact absurd hu hxatt
    · simp only [h, if_false] at hu ⊢
      have ⟨hlt, hor⟩ := hi.att u hu
      have hlne : (s.th u).lid ≠ s.nextLid := Nat.ne_of_lt hlt
      refine ⟨by omega, ?_⟩
      simp only [hlne, if_false]
      refine hor.imp_right fun hreg => ?_
      have hk : (s.th u).key ≠ x'.key := fun hk => by rw [hk, hfree] at hreg; cases hreg
      simp [hk, hreg]

theorem inv_step (c : FCfg) (s s' : FState) (l : FLabel) (hi : Inv s) (h : step c s l = some s') : Inv s' := by
  obtain ⟨t, -, hs⟩ := step_sound h
  clear h
  -- every target is `{ s with g := …, errs := … }` changed further: `by simpa using hi` is `Inv` of that record (`inv_errs_g`)
  cases hs
  case electWon hpc hk _ | electWonRead hpc hk _ =>
    exact Inv.electWon (by simpa using hi) (by simp [Thread.owning, hpc]) hk ⟨rfl, by simp⟩ rfl
  -- the releasing rules end in `finishThread t (s.th t) r`, by definition a `setTh t`, the form `Inv.release` is stated in
  case lockedHitOwner hpc ho | ownerErr hpc ho _ _ =>
    exact Inv.release (by simpa using hi) (owning_of_pc ho (by simp [hpc])) (by simp [Thread.owning])
      (by simp [Thread.attached]) (by simp [Pc.ownerOnly])
  case fallback hpc _ | finish hpc _ | refreshFailed hpc | errsServed hpc _ =>
    exact Inv.release (by simpa using hi) (hi.owning (by simp [hpc, Pc.ownerOnly])) (by simp [Thread.owning])
      (by simp [Thread.attached]) (by simp [Pc.ownerOnly])
  case syncBuild hpc _ | bgBuild hpc _ | refreshed hpc | storeFailed hpc | stored hpc | errsMiss hpc _ | built hpc |
      buildFailedCached hpc _ | buildFailed hpc _ | errsWritten hpc =>
    -- at a position only an owner reaches the owner flag comes from the invariant
    exact Inv.move (by simpa using hi) (by simp [Thread.owning_iff, Thread.attached, Pc.ownerOnly, hpc, hi.role t])
  -- the rest leaves the lock table alone too: a thread that holds no lock moves on or finishes, a waiter attaches to the
  -- registered lock or stays attached, an owner at `classify` or `lockedRead` (owner flag in the rule) moves on
  all_goals exact Inv.move (by simpa using hi) (by simp +contextual [Thread.owning_iff, Thread.attached, Pc.ownerOnly, *])

/-- The step hypothesis is asked of the labels of the run only: `C18_failover_totals` bounds the threads that occur in them. -/
theorem run_induction {c : FCfg} {P : FState → Prop} {ls : List FLabel}
    (hstep : ∀ l ∈ ls, ∀ s s', P s → step c s l = some s' → P s') {s s' : FState}
    (h0 : P s) (h : run c s ls = some s') : P s' := by
  induction ls generalizing s with
  | nil => cases h; exact h0
  | cons l ls ih =>
    simp only [run] at h
    split at h
    · exact ih (fun l' hl' => hstep l' (List.mem_cons_of_mem _ hl')) (hstep l List.mem_cons_self _ _ h0 ‹_›) h
    · cases h

def Reachable (c : FCfg) (s : FState) : Prop := ∃ ls, run c FState.init ls = some s

theorem Reachable.induction {c : FCfg} {s : FState} {P : FState → Prop} (h : Reachable c s) (h0 : P FState.init)
    (hstep : ∀ s s' l, P s → step c s l = some s' → P s') : P s := by
  obtain ⟨ls, hl⟩ := h
  exact run_induction (fun l _ s s' => hstep s s' l) h0 hl

theorem reachable_inv {c : FCfg} {s : FState} (h : Reachable c s) : Inv s :=
  h.induction inv_init (inv_step c)

end Cache
