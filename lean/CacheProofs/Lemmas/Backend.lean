import CacheModel.Machine

/-
  The backend model seen through its per-key view `Store.get`: what each operation answers and which store it leaves,
  as a function of `get`, for well-formed stores.  The backend properties (C07, C09-C13, C18) are read off these
  characterisations.
-/
namespace Cache
open Std

variable (hash : Key → Nat)

/-- The per-key view of the store: the entry stored under `k` itself (a slot occupied by a colliding key is `none`). -/
def Store.get (s : Store) (k : Key) : Option Entry :=
  match s.slots[hash k]? with
  | some e => if e.K = k then some e else none
  | none => none

/-- Every entry sits in the slot of its own key. -/
def Store.WF (s : Store) : Prop := ∀ h e, s.slots[h]? = some e → hash e.K = h

/-- SyncMap looks entries up by the key string itself: its slot numbering is injective. -/
def KindOK (kind : Kind) : Prop := kind = .sync → Function.Injective hash

variable {hash}

theorem Store.get_eq_filter (s : Store) (k : Key) : s.get hash k = s.slots[hash k]?.filter (fun e => decide (e.K = k)) := by
  unfold Store.get; cases s.slots[hash k]? <;> simp [Option.filter]

theorem Store.get_eq_some {s : Store} {k : Key} {e : Entry} :
    s.get hash k = some e ↔ s.slots[hash k]? = some e ∧ e.K = k := by
  simp [Store.get_eq_filter]

theorem size_pos_of_get {s : Store} {k : Key} {e : Entry} (h : s.get hash k = some e) : 0 < s.slots.size :=
  TreeMap.length_toList ▸ List.length_pos_of_mem (TreeMap.mem_toList_iff_getElem?_eq_some.mpr (Store.get_eq_some.mp h).1)

theorem get_collide {s : Store} {k k' : Key} {e : Entry} (hg : s.get hash k = some e) (hne : k' ≠ k)
    (hh : hash k' = hash k) : s.get hash k' = none := by
  have ⟨hs, hek⟩ := Store.get_eq_some.mp hg
  simp [Store.get_eq_filter, hh, hs, hek, Ne.symm hne]

theorem Store.WF.slot_eq_some {s : Store} (hw : s.WF hash) {h : Nat} {e : Entry} :
    s.slots[h]? = some e ↔ hash e.K = h ∧ s.get hash e.K = some e := by
  constructor
  · intro he
    have := hw h e he
    exact ⟨this, Store.get_eq_some.mpr ⟨this ▸ he, rfl⟩⟩
  · rintro ⟨rfl, he⟩; exact (Store.get_eq_some.mp he).1

/-- What `Write`, `Restore` and the usage bump of `Read` do to the view.  `get` and `WF` depend on the slots only, hence
    the hypothesis on `s'.slots` in place of a definition of `s'`. -/
theorem get_insert {s s' : Store} {e : Entry} (h : s'.slots = s.slots.insert (hash e.K) e) (k : Key) :
    s'.get hash k = if k = e.K then some e else if hash k = hash e.K then none else s.get hash k := by
  simp only [Store.get_eq_filter, h, TreeMap.getElem?_insert]
  by_cases hk : k = e.K
  · simp [hk]
  · by_cases hh : hash k = hash e.K
    · simp [hk, hh, Ne.symm hk]
    · simp [hk, hh, Ne.symm hh]

theorem get_insert_some {s s' : Store} {e e' : Entry} {k : Key} (h : s'.slots = s.slots.insert (hash e.K) e)
    (he' : s'.get hash k = some e') : e' = e ∨ s.get hash k = some e' := by
  have ⟨hs, hk⟩ := Store.get_eq_some.mp he'
  rw [h, TreeMap.getElem?_insert] at hs
  split at hs
  · exact .inl (Option.some.inj hs).symm
  · exact .inr (Store.get_eq_some.mpr ⟨hs, hk⟩)

theorem wf_insert {s s' : Store} {e : Entry} (hw : s.WF hash) (h : s'.slots = s.slots.insert (hash e.K) e) :
    s'.WF hash := by
  intro h' e' he'
  rw [h, TreeMap.getElem?_insert] at he'
  split at he'
  · cases he'; exact Nat.compare_eq_eq.mp ‹_›
  · exact hw h' e' he'

theorem wf_empty : (Store.empty).WF hash := by
  intro h e he; simp [Store.empty] at he

@[simp] theorem get_empty (k : Key) : (Store.empty).get hash k = none := by
  simp [Store.get, Store.empty]

theorem wf_writeCore {s : Store} (hw : s.WF hash) (k : Key) (v : Option Val) (E : Time) (b : Bool) :
    (s.writeCore hash k v E b).WF hash :=
  wf_insert (e := ⟨k, v, E, 0⟩) hw rfl

theorem get_writeCore (s : Store) (k k' : Key) (v : Option Val) (E : Time) (b : Bool) :
    (s.writeCore hash k v E b).get hash k' =
      if k' = k then some { K := k, V := v, E := E, C := 0 }
      else if hash k' = hash k then none else s.get hash k' :=
  get_insert (e := ⟨k, v, E, 0⟩) rfl k'

theorem wf_restoreOne {s : Store} (hw : s.WF hash) (e : Entry) : (s.restoreOne hash e).WF hash :=
  wf_insert hw rfl

theorem slotKeyEq_iff (slot : Option Entry) (k : Key) :
    (slot.isSome && slotKeyEq slot k) = true ↔ ∃ e, slot = some e ∧ e.K = k := by
  cases slot <;> simp [slotKeyEq]

theorem get_erase {s s' : Store} {k : Key} (h : s'.slots = s.slots.erase (hash k)) (k' : Key) :
    s'.get hash k' = if hash k' = hash k then none else s.get hash k' := by
  simp only [Store.get_eq_filter, h, TreeMap.getElem?_erase]
  by_cases hh : hash k' = hash k
  · simp [hh]
  · simp [hh, Ne.symm hh]

variable (hash) in
/-- The lookup section of `Read` misses exactly when the key itself is not stored. -/
theorem keyMismatchRead_eq {s : Store} {kind : Kind} (hw : s.WF hash) (hk : KindOK hash kind) (k : Key) :
    (!(s.slot hash k).isSome || kind.keyMismatchRead true (slotKeyEq (s.slot hash k) k)) = (s.get hash k).isNone := by
  unfold Store.slot Store.get
  cases hs : s.slots[hash k]? with
  | none => simp
  | some e =>
    cases kind
    · by_cases he : e.K = k <;> simp [Kind.keyMismatchRead, Gen.keyMismatchRead, slotKeyEq, he]
    · by_cases he : e.K = k <;> simp [Kind.keyMismatchRead, Gen.keyMismatchReadOf, slotKeyEq, he]
    · simp [Kind.keyMismatchRead, hk rfl (hw _ _ hs)]

theorem Kind.keyMismatchDelete_eq_read (kind : Kind) (b : Bool) :
    kind.keyMismatchDelete true b = kind.keyMismatchRead true b := by
  cases kind <;> rfl

theorem delete_eq {s : Store} {kind : Kind} (hw : s.WF hash) (hk : KindOK hash kind) (k : Key) :
    s.delete hash kind k =
      if (s.get hash k).isSome then ({ s with slots := s.slots.erase (hash k) }, true, [.delete 1])
      else (s, false, []) := by
  unfold Store.delete
  simp only [Kind.keyMismatchDelete_eq_read, keyMismatchRead_eq hash hw hk]
  cases s.get hash k <;> rfl

/-- `s'` is `s` with some slots emptied. -/
def Store.Sub (s' s : Store) : Prop :=
  s'.expirationsSet = s.expirationsSet ∧ ∀ (h : Nat) (e : Entry), s'.slots[h]? = some e → s.slots[h]? = some e

theorem Store.Sub.trans {s₁ s₂ s₃ : Store} (h : s₁.Sub s₂) (h' : s₂.Sub s₃) : s₁.Sub s₃ :=
  ⟨h.1.trans h'.1, fun a e he => h'.2 a e (h.2 a e he)⟩

theorem Store.Sub.wf {s' s : Store} (h : s'.Sub s) (hw : s.WF hash) : s'.WF hash :=
  fun a e he => hw a e (h.2 a e he)

theorem Store.Sub.get {s' s : Store} (h : s'.Sub s) {k : Key} {e : Entry} (he : s'.get hash k = some e) :
    s.get hash k = some e :=
  have ⟨hs, hk⟩ := Store.get_eq_some.mp he
  Store.get_eq_some.mpr ⟨h.2 _ _ hs, hk⟩

theorem delete_sub (kind : Kind) (s : Store) (k : Key) : (s.delete hash kind k).1.Sub s := by
  unfold Store.delete
  simp only
  split
  · exact ⟨rfl, fun _ _ => id⟩
  · exact ⟨rfl, fun h e => by simp only [TreeMap.getElem?_erase]; split <;> simp⟩

theorem get_delete {s : Store} {kind : Kind} (hw : s.WF hash) (hk : KindOK hash kind) (k k' : Key) :
    (s.delete hash kind k).1.get hash k' = if k' = k then none else s.get hash k' := by
  rw [delete_eq hw hk]
  cases hg : s.get hash k with
  | none => by_cases hkk : k' = k <;> simp [hkk, hg]
  | some e =>
    rw [get_erase rfl]
    by_cases hkk : k' = k
    · simp [hkk]
    · by_cases hh : hash k' = hash k
      · simp [hkk, hh, get_collide hg hkk hh]
      · simp [hkk, hh]

theorem isExpired_eq (kind : Kind) (E now : Int) : kind.isExpired E now = decide (E ≠ 0 ∧ E < now) := by
  by_cases h0 : E = 0 <;> cases kind <;> simp [Kind.isExpired, Gen.isExpired, Gen.isExpiredOf, h0]

/-- The usage metric `Read` leaves on the entry it found. -/
def Entry.touch (cfg : Cfg) (now : Time) (e : Entry) : Entry :=
  { e with C := match cfg.strategy with
      | .mostExpired => e.C
      | .lru => now
      | .lfu => e.C + 1 }

theorem read_eq {s : Store} {kind : Kind} (cfg : Cfg) (hw : s.WF hash) (hk : KindOK hash kind) (k : Key) (now : Time) :
    s.read hash kind cfg k false now =
      match s.get hash k with
      | none => (s, .miss, [.miss])
      | some e =>
        ({ s with slots := s.slots.insert (hash k) (e.touch cfg now) },
         if e.E ≠ 0 ∧ e.E < now then .expired e.V e.E else .hit e.V,
         [if e.E ≠ 0 ∧ e.E < now then .expired 1 else .hit]) := by
  unfold Store.read
  simp only [Bool.false_eq_true, if_false, keyMismatchRead_eq hash hw hk]
  cases hg : s.get hash k with
  | none => rfl
  | some e =>
    simp only [Option.isNone_some, Bool.false_eq_true, if_false, Store.slot, (Store.get_eq_some.mp hg).1, isExpired_eq,
      decide_eq_true_eq]
    split <;> rfl

theorem get_read {s : Store} {kind : Kind} (cfg : Cfg) (hw : s.WF hash) (hk : KindOK hash kind)
    (k : Key) (skip : Bool) (now : Time) (k' : Key) :
    (s.read hash kind cfg k skip now).1.get hash k' =
      if skip = false ∧ k' = k then (s.get hash k').map (Entry.touch cfg now) else s.get hash k' := by
  cases skip
  · rw [read_eq cfg hw hk]
    cases hg : s.get hash k with
    | none => by_cases hkk : k' = k <;> simp [hkk, hg]
    | some e =>
      obtain ⟨-, rfl⟩ := Store.get_eq_some.mp hg
      rw [get_insert (e := e.touch cfg now) rfl]
      by_cases hkk : k' = e.K
      · simp [hkk, hg, Entry.touch]
      · by_cases hh : hash k' = hash e.K
        · simp [hkk, hh, Entry.touch, get_collide hg hkk hh]
        · simp [hkk, hh, Entry.touch]
  · rfl

theorem get_read_some {s : Store} {kind : Kind} (cfg : Cfg) (hw : s.WF hash) (hk : KindOK hash kind)
    {k k' : Key} {skip : Bool} {now : Time} {e' : Entry} (h : (s.read hash kind cfg k skip now).1.get hash k' = some e') :
    ∃ e, s.get hash k' = some e ∧ e.V = e'.V ∧ e.E = e'.E := by
  rw [get_read cfg hw hk] at h
  split at h
  · obtain ⟨e, he, rfl⟩ := Option.map_eq_some_iff.mp h
    exact ⟨e, he, rfl, rfl⟩
  · exact ⟨e', h, rfl, rfl⟩

theorem wf_read {s : Store} {kind : Kind} (cfg : Cfg) (hw : s.WF hash) (hk : KindOK hash kind)
    (k : Key) (skip : Bool) (now : Time) : (s.read hash kind cfg k skip now).1.WF hash := by
  cases skip
  · rw [read_eq cfg hw hk]
    cases hg : s.get hash k with
    | none => exact hw
    | some e =>
      obtain ⟨-, rfl⟩ := Store.get_eq_some.mp hg
      exact wf_insert (e := e.touch cfg now) hw rfl
  · exact hw

theorem read_shape (kind : Kind) (cfg : Cfg) (s : Store) (k : Key) (skip : Bool) (now : Time) :
    (s.read hash kind cfg k skip now).1.expirationsSet = s.expirationsSet ∧
    (s.read hash kind cfg k skip now).2.2 =
      if skip then [] else match (s.read hash kind cfg k skip now).2.1 with
        | .miss => [.miss]
        | .hit _ => [.hit]
        | .expired _ _ => [.expired 1] := by
  unfold Store.read
  cases skip
  · simp only [Bool.false_eq_true, if_false]
    split
    · exact ⟨rfl, rfl⟩
    · split
      · exact ⟨rfl, rfl⟩
      · split <;> exact ⟨rfl, rfl⟩
  · exact ⟨rfl, rfl⟩

theorem wf_expireAll {s : Store} (hw : s.WF hash) (now : Time) : (s.expireAll now).1.WF hash := by
  intro h e he
  simp only [Store.expireAll, TreeMap.getElem?_map, Option.map_eq_some_iff] at he
  obtain ⟨e0, hs, rfl⟩ := he
  exact hw h e0 hs

theorem get_expireAll (s : Store) (now : Time) (k : Key) :
    (s.expireAll now).1.get hash k = (s.get hash k).map (fun e => { e with E := now }) := by
  simp only [Store.get_eq_filter, Store.expireAll, TreeMap.getElem?_map, Option.filter_map]
  rfl

theorem wf_deleteAll (s : Store) : (s.deleteAll).1.WF hash := by
  intro h e he; simp [Store.deleteAll] at he

@[simp] theorem get_deleteAll (s : Store) (k : Key) : (s.deleteAll).1.get hash k = none := by
  simp [Store.get, Store.deleteAll]

theorem len_expireAll (s : Store) (now : Time) : (s.expireAll now).1.len = s.len := by
  simp [Store.len, Store.expireAll, TreeMap.size_map]

theorem len_deleteAll (s : Store) : (s.deleteAll).1.len = 0 := by
  simp [Store.len, Store.deleteAll]

theorem mem_walk_iff {s : Store} (hw : s.WF hash) (e : Entry) :
    e ∈ s.walk ↔ s.get hash e.K = some e := by
  simp [Store.walk, TreeMap.mem_toList_iff_getElem?_eq_some, hw.slot_eq_some]

theorem Store.WF.get_eq_some_iff {s : Store} (hw : s.WF hash) {k : Key} {e : Entry} :
    s.get hash k = some e ↔ e ∈ s.walk ∧ e.K = k := by
  rw [mem_walk_iff hw]
  constructor
  · intro he; obtain ⟨-, rfl⟩ := Store.get_eq_some.mp he; exact ⟨he, rfl⟩
  · rintro ⟨he, rfl⟩; exact he

theorem walk_length (s : Store) : s.walk.length = s.len := by
  simp [Store.walk, Store.len, TreeMap.length_toList]

theorem walk_slots_nodup {s : Store} (hw : s.WF hash) : (s.walk.map (fun e => hash e.K)).Nodup := by
  unfold Store.walk
  rw [List.map_map, List.Nodup, List.pairwise_map]
  refine List.Pairwise.imp_of_mem ?_ (TreeMap.distinct_keys_toList (t := s.slots))
  intro a b ha hb hne
  have h1 := hw _ _ ((TreeMap.mem_toList_iff_getElem?_eq_some).mp ha)
  have h2 := hw _ _ ((TreeMap.mem_toList_iff_getElem?_eq_some).mp hb)
  simpa [h1, h2] using hne

theorem walk_keys_nodup {s : Store} (hw : s.WF hash) : (s.walk.map (·.K)).Nodup := by
  have := walk_slots_nodup hw
  rw [List.Nodup, List.pairwise_map] at this ⊢
  exact this.imp (fun h heq => h (congrArg hash heq))

theorem wf_step {s : Store} {kind : Kind} (cfg : Cfg) (hw : s.WF hash) (hk : KindOK hash kind) (now : Time) (op : Op) :
    (Backend.step hash kind cfg s now op).1.WF hash := by
  cases op with
  | write k v ctxTTL rn rd | store k v rn rd => exact wf_writeCore hw _ _ _ _
  | read k skip => exact wf_read cfg hw hk _ _ _
  | load k => exact wf_read cfg hw hk k false now
  | delete k => exact (delete_sub kind s k).wf hw
  | expireAll => exact wf_expireAll hw now
  | deleteAll => exact wf_deleteAll s
  | len | walk => exact hw

end Cache
