import CacheModel.Failover

/- How the update functions of `FState` act on its fields, and what four of the configuration predicates of `FCfg` decide
   whichever the variant (`errCache`: `C05_errCache_iff`; `freshEnough` stays opaque, the theorems take its value as a
   hypothesis): with these as simp lemmas the proofs about steps do not unfold the update functions or those kernels. -/
namespace Cache

attribute [simp] FLabel.thread FState.finishThread

@[simp] theorem th_setTh (s : FState) (t : Nat) (x : Thread) (u : Nat) : (s.setTh t x).th u = if u = t then x else s.th u := rfl
@[simp] theorem setTh_th_same (s : FState) (t : Nat) (x : Thread) : (s.setTh t x).th t = x := if_pos rfl
theorem setTh_th_other {s : FState} {t u : Nat} {x : Thread} (h : u ≠ t) : (s.setTh t x).th u = s.th u := if_neg h
@[simp] theorem setTh_keyLocks (s : FState) (t : Nat) (x : Thread) : (s.setTh t x).keyLocks = s.keyLocks := rfl
@[simp] theorem setTh_kl (s : FState) (t : Nat) (x : Thread) : (s.setTh t x).kl = s.kl := rfl
@[simp] theorem setTh_nextLid (s : FState) (t : Nat) (x : Thread) : (s.setTh t x).nextLid = s.nextLid := rfl
@[simp] theorem setTh_errs (s : FState) (t : Nat) (x : Thread) : (s.setTh t x).errs = s.errs := rfl
@[simp] theorem setTh_g (s : FState) (t : Nat) (x : Thread) : (s.setTh t x).g = s.g := rfl

@[simp] theorem req_th (s : FState) (t : Nat) (r : Req) : (s.req t r).th = s.th := rfl
@[simp] theorem req_keyLocks (s : FState) (t : Nat) (r : Req) : (s.req t r).keyLocks = s.keyLocks := rfl
@[simp] theorem req_kl (s : FState) (t : Nat) (r : Req) : (s.req t r).kl = s.kl := rfl
@[simp] theorem req_nextLid (s : FState) (t : Nat) (r : Req) : (s.req t r).nextLid = s.nextLid := rfl

@[simp] theorem th_noteRead (s : FState) (k : Key) (a : ReadAns) : (s.noteRead k a).th = s.th := rfl
@[simp] theorem noteRead_th (s : FState) (k : Key) (a : ReadAns) : (s.noteRead k a).th = s.th := rfl

@[simp] theorem noteRead_g (s : FState) (k : Key) (a : ReadAns) :
    (s.noteRead k a).g = { s.g with
      backendVals := (match a with | .hit v | .stale v _ => [(k, v)] | _ => []) ++ s.g.backendVals,
      backendErrs := (match a with | .err e => [(k, e)] | _ => []) ++ s.g.backendErrs } := by
  cases a <;> rfl

@[simp] theorem th_noteWrite (s : FState) (k : Key) (a : WriteAns) : (s.noteWrite k a).th = s.th := by cases a <;> rfl

@[simp] theorem th_publishRelease (s : FState) (k : Key) (l : Nat) (r : GetResult) : (s.publishRelease k l r).th = s.th := rfl
@[simp] theorem publishRelease_keyLocks (s : FState) (k : Key) (l : Nat) (r : GetResult) (k' : Key) :
    (s.publishRelease k l r).keyLocks k' = if k' = k then none else s.keyLocks k' := rfl
@[simp] theorem publishRelease_kl (s : FState) (k : Key) (l : Nat) (r : GetResult) (m : Nat) :
    (s.publishRelease k l r).kl m = if m = l then { val := r.val, err := r.err, closed := true } else s.kl m := by
  simp only [FState.publishRelease, FState.release, FState.setKL]; split <;> simp [*]
@[simp] theorem publishRelease_g (s : FState) (k : Key) (l : Nat) (r : GetResult) : (s.publishRelease k l r).g = s.g := rfl

@[simp] theorem FCfg.syncCond_eq (c : FCfg) (e : Bool) : c.syncCond e = (c.syncUpdate || e) := by
  cases hv : c.variant <;> simp [FCfg.syncCond, hv, Gen.syncUpdateCond, Gen.syncUpdateCondOf]
@[simp] theorem FCfg.fallback_eq (c : FCfg) (b : Bool) : c.fallback b = (b && !c.failHard) := by
  cases hv : c.variant <;> simp [FCfg.fallback, hv, Gen.fallbackCond, Gen.fallbackCondOf]
@[simp] theorem FCfg.refreshUpdateExisting_eq (c : FCfg) : c.refreshUpdateExisting = false := by
  cases hv : c.variant <;> simp [FCfg.refreshUpdateExisting, hv, Gen.refreshUpdateExisting, Gen.refreshUpdateExistingOf]
@[simp] theorem FCfg.errsWriteResetsTTL_eq (c : FCfg) : c.errsWriteResetsTTL = true := by
  cases hv : c.variant <;> simp [FCfg.errsWriteResetsTTL, hv, Gen.errsWriteResetsTTL, Gen.errsWriteResetsTTLOf]

end Cache
