import CacheModel.Spec
import CacheProofs.Lemmas.AssocList

/- Lemmas about the reference association-list map: `get` after each update, and that updates keep keys distinct. -/
namespace Cache.Spec

theorem get_nil (k : Key) : get [] k = none := rfl

theorem get_cons (p : Key × SEntry) (m : SMap) (k : Key) :
    get (p :: m) k = if p.1 = k then some p.2 else get m k := by
  unfold get
  by_cases h : p.1 = k <;> simp [h]

theorem get_remove (m : SMap) (k k' : Key) : get (remove m k) k' = if k' = k then none else get m k' := by
  unfold get remove; rw [find?_fst_filter_ne]; split <;> rfl

theorem get_put (m : SMap) (k k' : Key) (e : SEntry) :
    get (put m k e) k' = if k' = k then some e else get m k' := by
  unfold get put remove; rw [find?_fst_cons_filter_ne]; split <;> rfl

theorem get_some_mem {m : SMap} {k : Key} {e : SEntry} (h : get m k = some e) : (k, e) ∈ m := by
  obtain ⟨p, hp, rfl⟩ := Option.map_eq_some_iff.mp h
  have := List.find?_some hp
  simp only [beq_iff_eq] at this
  exact this ▸ List.mem_of_find?_eq_some hp

theorem get_isSome_iff_mem_keys (m : SMap) (k : Key) : (get m k).isSome ↔ k ∈ keys m := by
  simp [get, keys]

theorem get_expireAll (m : SMap) (now : Time) (k : Key) :
    get (expireAll m now) k = (get m k).map (fun e => { e with E := now }) := by
  simp [get, expireAll, List.find?_map, Function.comp_def]

theorem keys_remove (m : SMap) (k : Key) : keys (remove m k) = (keys m).filter (· != k) := by
  simp [keys, remove, List.filter_map, Function.comp_def]

theorem nodup_remove {m : SMap} (h : (keys m).Nodup) (k : Key) : (keys (remove m k)).Nodup := by
  rw [keys_remove]; exact h.filter _

theorem nodup_put {m : SMap} (h : (keys m).Nodup) (k : Key) (e : SEntry) : (keys (put m k e)).Nodup := by
  show (k :: keys (remove m k)).Nodup
  rw [List.nodup_cons, keys_remove]
  exact ⟨by simp, h.filter _⟩

theorem keys_expireAll (m : SMap) (now : Time) : keys (expireAll m now) = keys m := by
  simp [keys, expireAll, List.map_map, Function.comp_def]

end Cache.Spec
