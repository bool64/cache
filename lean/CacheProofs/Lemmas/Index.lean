import CacheModel.Index
import CacheProofs.Lemmas.AssocList

/- Lemmas about the InvalidationIndex model: its maps after each update, and the effect of one delete call. -/
namespace Cache

@[simp] theorem lkGet_nil (l : Label) : lkGet [] l = [] := rfl
@[simp] theorem lkHas_nil (l : Label) : lkHas [] l = false := rfl

@[simp] theorem lkGet_cons (p : Label × List Key) (lk : LabeledKeys) (l : Label) :
    lkGet (p :: lk) l = if p.1 = l then p.2 else lkGet lk l := by
  by_cases h : p.1 = l <;> simp [lkGet, h]

@[simp] theorem lkHas_cons (p : Label × List Key) (lk : LabeledKeys) (l : Label) :
    lkHas (p :: lk) l = (p.1 == l || lkHas lk l) := by
  cases h : p.1 == l <;> simp [lkHas, h]

@[simp] theorem lkHas_append (a b : LabeledKeys) (l : Label) : lkHas (a ++ b) l = (lkHas a l || lkHas b l) := by
  simp [lkHas, List.find?_append]

@[simp] theorem lkGet_append (a b : LabeledKeys) (l : Label) :
    lkGet (a ++ b) l = if lkHas a l then lkGet a l else lkGet b l := by
  unfold lkGet lkHas
  rw [List.find?_append]
  cases a.find? (·.1 == l) <;> rfl

theorem lkGet_of_not_lkHas {lk : LabeledKeys} {l : Label} (h : lkHas lk l = false) : lkGet lk l = [] := by
  rw [lkHas, Option.isSome_eq_false_iff, Option.isNone_iff_eq_none] at h
  rw [lkGet, h]; rfl

@[simp] theorem lkGet_lkErase (lk : LabeledKeys) (l l' : Label) :
    lkGet (lkErase lk l) l' = if l' = l then [] else lkGet lk l' := by
  unfold lkGet lkErase
  rw [find?_fst_filter_ne]; split <;> rfl

@[simp] theorem lkGet_lkSet (lk : LabeledKeys) (l l' : Label) (ks : List Key) :
    lkGet (lkSet lk l ks) l' = if l' = l then ks else lkGet lk l' := by
  unfold lkGet lkSet lkErase
  rw [find?_fst_cons_filter_ne]; split <;> rfl

@[simp] theorem cache_setCache (s : IdxState) (d d' : Did) (ks : List Key) :
    (s.setCache d ks).cache d' = if d' = d then ks else s.cache d' := by
  unfold IdxState.cache IdxState.setCache
  rw [find?_fst_cons_filter_ne]; split <;> rfl

@[simp] theorem labeled_setLabeled (s : IdxState) (n n' : Name) (lk : LabeledKeys) :
    (s.setLabeled n lk).labeled n' = if n' = n then lk else s.labeled n' := by
  unfold IdxState.labeled IdxState.setLabeled
  rw [find?_fst_cons_filter_ne]; split <;> rfl

@[simp] theorem labeled_setCache (s : IdxState) (d : Did) (ks : List Key) (n : Name) :
    (s.setCache d ks).labeled n = s.labeled n := rfl
@[simp] theorem deletersOf_setCache (s : IdxState) (d : Did) (ks : List Key) (n : Name) :
    (s.setCache d ks).deletersOf n = s.deletersOf n := rfl
@[simp] theorem cache_setLabeled (s : IdxState) (n : Name) (lk : LabeledKeys) (d : Did) :
    (s.setLabeled n lk).cache d = s.cache d := rfl
@[simp] theorem deletersOf_setLabeled (s : IdxState) (n : Name) (lk : LabeledKeys) (n' : Name) :
    (s.setLabeled n lk).deletersOf n' = s.deletersOf n' := rfl

/-- Everything a sequence of delete calls may do. -/
structure Shrinks (s s' : IdxState) : Prop where
  idx : s'.idx = s.idx
  deleters : s'.deleters = s.deleters
  sub : ∀ d k, k ∈ s'.cache d → k ∈ s.cache d

theorem Shrinks.refl (s : IdxState) : Shrinks s s := ⟨rfl, rfl, fun _ _ h => h⟩
theorem Shrinks.trans {a b c : IdxState} (h1 : Shrinks a b) (h2 : Shrinks b c) : Shrinks a c :=
  ⟨h2.idx.trans h1.idx, h2.deleters.trans h1.deleters, fun d k h => h1.sub d k (h2.sub d k h)⟩
theorem Shrinks.labeled {s s' : IdxState} (h : Shrinks s s') (n : Name) : s'.labeled n = s.labeled n := by
  unfold IdxState.labeled; rw [h.idx]
theorem Shrinks.deletersOf {s s' : IdxState} (h : Shrinks s s') (n : Name) : s'.deletersOf n = s.deletersOf n := by
  unfold IdxState.deletersOf; rw [h.deleters]

/-- `Shrinks`, and only pairs in `R` disappear. The specs of the loops of `invalidateByLabels` leave `R` a variable and ask
    that it hold of every pair the loop may delete, so they compose by `trans` alone. -/
structure Deletes (R : Did → Key → Prop) (s s' : IdxState) : Prop extends Shrinks s s' where
  only : ∀ d k, k ∈ s.cache d → k ∉ s'.cache d → R d k

theorem Deletes.refl (R : Did → Key → Prop) (s : IdxState) : Deletes R s s := ⟨.refl s, fun _ _ h h' => absurd h h'⟩

theorem Deletes.trans {R : Did → Key → Prop} {a b c : IdxState} (h1 : Deletes R a b) (h2 : Deletes R b c) : Deletes R a c :=
  ⟨h1.toShrinks.trans h2.toShrinks, fun d k ha hc => if hb : k ∈ b.cache d then h2.only d k hb hc else h1.only d k ha hb⟩

theorem deleteCall_spec {R : Did → Key → Prop} {s s' : IdxState} {faults : Nat → Bool} {d : Did} {k : Key} {a : DelAns}
    (h : s.deleteCall faults d k = (s', a)) (hR : R d k) : Deletes R s s' ∧ (a ≠ .fail → k ∉ s'.cache d) := by
  unfold IdxState.deleteCall at h
  have same : Deletes R s { s with calls := s.calls + 1 } :=
    ⟨⟨rfl, rfl, fun _ _ h => h⟩, fun _ _ h h' => absurd h h'⟩
  split at h
  · cases h; exact ⟨same, by simp⟩
  · split at h
    · cases h
      have hm : ∀ d' k', k' ∈ (({ s with calls := s.calls + 1 } : IdxState).setCache d ((s.cache d).filter (· != k))).cache d' ↔
          k' ∈ s.cache d' ∧ ¬(d' = d ∧ k' = k) := by
        intro d' k'
        by_cases hd : d' = d
        · simp [hd]
        · simp [hd]; rfl
      exact ⟨⟨⟨rfl, rfl, fun d' k' h => ((hm d' k').1 h).1⟩,
        fun d' k' h1 h2 => by obtain ⟨rfl, rfl⟩ := Classical.not_not.1 fun hn => h2 ((hm d' k').2 ⟨h1, hn⟩); exact hR⟩,
        fun _ h => ((hm d k).1 h).2 ⟨rfl, rfl⟩⟩
    · cases h
      rename_i hc
      exact ⟨same, fun _ (h' : k ∈ s.cache d) => hc (by simpa using h')⟩

end Cache
