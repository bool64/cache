import CacheModel.MemModel

/-
  The lockset argument, proved for every legal trace (`lock_pair_ordered`): two events of different goroutines, each made
  while its goroutine holds a common lock, at least one of the holds exclusive, are ordered by happens-before. The events need
  not be accesses: only program order and the lock edges are used.
-/
namespace Cache.MM

theorem heldAt_zero (tr : List Ev) : heldAt tr 0 = fun _ _ => none := by
  simp [heldAt, heldAfter]

theorem heldAt_succ {tr : List Ev} {n : Nat} (h : n < tr.length) :
    heldAt tr (n + 1) = stepH (heldAt tr n) tr[n] := by
  unfold heldAt heldAfter
  rw [List.take_add_one, List.foldl_append]
  simp [List.getElem?_eq_getElem h]

theorem stepH_cell (h : Held) (e : Ev) (t k : Nat) :
    stepH h e t k = h t k ∨ (∃ m, e = .acq t k m ∧ stepH h e t k = some m) ∨
      ∃ m, e = .rel t k m ∧ stepH h e t k = none := by
  cases e with
  | acq | rel => simp only [stepH, Held.set]; split <;> simp_all
  | _ => exact .inl rfl

theorem legal_acq {h : Held} {t k : Nat} {m : Mode} (hl : legalEv h (.acq t k m)) :
    h t k = none ∧ ∀ t' m', h t' k = some m' → m ≠ .ex ∧ m' ≠ .ex := by
  cases m with
  | ex => exact ⟨hl t, fun t' m' h' => by rw [hl t'] at h'; cases h'⟩
  | sh => exact ⟨hl.1, fun t' m' h' => ⟨by decide, fun e => hl.2 t' (e ▸ h')⟩⟩

def MutexInv (h : Held) : Prop := ∀ t t' k, t ≠ t' → h t k = some .ex → h t' k = none

theorem mutex_step {h : Held} {e : Ev} (hi : MutexInv h) (hl : legalEv h e) : MutexInv (stepH h e) := by
  intro t1 t2 k hne hex
  rcases stepH_cell h e t2 k with h2 | ⟨m, rfl, -⟩ | ⟨m, -, h2⟩
  · rw [h2]
    rcases stepH_cell h e t1 k with h1 | ⟨m, rfl, h1⟩ | ⟨m, -, h1⟩
    · exact hi t1 t2 k hne (h1 ▸ hex)
    · obtain rfl : m = .ex := by simpa [h1] using hex
      exact hl t2
    · rw [h1] at hex; cases hex
  · have h1 : h t1 k = some .ex := by simpa [stepH, Held.set, hne] using hex
    exact absurd rfl ((legal_acq hl).2 t1 _ h1).2
  · exact h2

theorem mutex_at (tr : List Ev) (hl : Legal tr) : ∀ n, n ≤ tr.length → MutexInv (heldAt tr n) := by
  intro n
  induction n with
  | zero => intro _ t t' k _ h; rw [heldAt_zero] at h; cases h
  | succ n ih =>
    intro hn
    rw [heldAt_succ hn]
    exact mutex_step (ih (Nat.le_of_succ_le hn)) (hl n hn)

/-- A held lock was acquired earlier by the holder, in that mode, and has been held ever since. -/
theorem acquire_before (tr : List Ev) (t k : Nat) (m : Mode) :
    ∀ j, j ≤ tr.length → heldAt tr j t k = some m →
      ∃ a, a < j ∧ tr[a]? = some (Ev.acq t k m) ∧ ∀ p, a < p → p ≤ j → heldAt tr p t k = some m := by
  intro j
  induction j with
  | zero => intro _ h; rw [heldAt_zero] at h; cases h
  | succ j ih =>
    intro hj h
    rcases heldAt_succ hj ▸ stepH_cell (heldAt tr j) tr[j] t k with h0 | ⟨m', he, h1⟩ | ⟨_, _, h1⟩
    · obtain ⟨a, ha, hea, hp⟩ := ih (Nat.le_of_succ_le hj) (h0 ▸ h)
      refine ⟨a, Nat.lt_succ_of_lt ha, hea, fun p hap hpj => ?_⟩
      rcases Nat.eq_or_lt_of_le hpj with rfl | hpj
      · exact h
      · exact hp p hap (Nat.le_of_lt_succ hpj)
    · obtain rfl : m' = m := by simpa [h1] using h
      refine ⟨j, Nat.lt_succ_self j, List.getElem?_eq_some_iff.2 ⟨hj, he⟩, fun p hjp hpj => ?_⟩
      obtain rfl : p = j + 1 := by omega
      exact h
    · rw [h1] at h; cases h

/-- A hold that is gone (or changed) later was released in between. -/
theorem release_between (tr : List Ev) (hl : Legal tr) (t k : Nat) (m : Mode) (i : Nat) :
    ∀ d, i + d ≤ tr.length → heldAt tr i t k = some m → heldAt tr (i + d) t k ≠ some m →
      ∃ r, i ≤ r ∧ r < i + d ∧ tr[r]? = some (Ev.rel t k m) := by
  intro d
  induction d with
  | zero => intro _ h0 h1; exact absurd h0 h1
  | succ d ih =>
    intro hlen h0 h1
    have hpl : i + d < tr.length := hlen
    by_cases hp : heldAt tr (i + d) t k = some m
    · -- the cell changed at event i+d, and the only legal event that changes a held cell is its release
      have hleg := hl (i + d) hpl
      rcases heldAt_succ hpl ▸ stepH_cell (heldAt tr (i + d)) tr[i + d] t k with h' | ⟨_, he, _⟩ | ⟨m', he, _⟩
      · exact absurd (h' ▸ hp) h1
      · rw [he] at hleg; rw [(legal_acq hleg).1] at hp; cases hp
      · rw [he] at hleg
        obtain rfl : m' = m := Option.some.inj (hleg.symm.trans hp)
        exact ⟨i + d, Nat.le_add_right i d, Nat.lt_succ_self _, List.getElem?_eq_some_iff.2 ⟨hpl, he⟩⟩
    · obtain ⟨r, hir, hrp, hre⟩ := ih (Nat.le_of_succ_le hlen) h0 hp
      exact ⟨r, hir, Nat.lt_succ_of_lt hrp, hre⟩

theorem HB.lt {tr : List Ev} {i j : Nat} (h : HB tr i j) : i < j := by
  induction h with
  | trans _ _ ih1 ih2 => exact Nat.lt_trans ih1 ih2
  | _ => assumption

theorem lock_pair_ordered {tr : List Ev} (hl : Legal tr) {i j k : Nat} {mi mj : Mode} {ei ej : Ev}
    (hij : i < j) (hei : tr[i]? = some ei) (hej : tr[j]? = some ej) (hne : ei.tid ≠ ej.tid)
    (hhi : heldAt tr i ei.tid k = some mi) (hhj : heldAt tr j ej.tid k = some mj) (hex : mi = .ex ∨ mj = .ex) :
    HB tr i j := by
  have hjl : j < tr.length := (List.getElem?_eq_some_iff.1 hej).1
  obtain ⟨a, haj, hea, hheld⟩ := acquire_before tr _ k mj j (Nat.le_of_lt hjl) hhj
  have hal : a < tr.length := Nat.lt_trans haj hjl
  rcases Nat.lt_or_ge a i with hai | hia
  · -- the later goroutine has held k since before i: both hold at i, one exclusively — impossible
    have hji := hheld i hai (Nat.le_of_lt hij)
    have inv := mutex_at tr hl i (Nat.le_of_lt (Nat.lt_trans hij hjl))
    rcases hex with rfl | rfl
    · rw [inv _ _ k hne hhi] at hji; cases hji
    · rw [inv _ _ k hne.symm hji] at hhi; cases hhi
  · -- it acquired at a ≥ i, which the earlier hold would have made illegal: that hold was released at some r in [i, a)
    have hlega := hl a hal
    rw [(List.getElem?_eq_some_iff.1 hea).2] at hlega
    have hgone : heldAt tr a ei.tid k ≠ some mi := fun hh =>
      have c := (legal_acq hlega).2 _ _ hh
      hex.elim c.2 c.1
    obtain ⟨d, rfl⟩ := Nat.exists_eq_add_of_le hia
    obtain ⟨r, hir, hra, hre⟩ := release_between tr hl _ k mi i d (Nat.le_of_lt hal) hhi hgone
    have h2 : HB tr r j := .trans (.lock hra hre hea hex) (.po haj hea hej rfl)
    rcases Nat.eq_or_lt_of_le hir with rfl | hir
    · exact h2
    · exact .trans (.po hir hei hre rfl) h2

end Cache.MM
