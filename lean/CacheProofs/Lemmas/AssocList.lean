/-
  The maps of the index model (`lkGet`, `labeled`, `cache`, `deletersOf`) and the reference map `Spec.get` are `find?` on the
  first component of an association list, and every update is "cons onto the filter"; these two facts relate them.
-/
namespace Cache

theorem find?_fst_filter_ne {β : Type} (l : List (Nat × β)) (a b : Nat) :
    (l.filter (·.1 != a)).find? (·.1 == b) = if b = a then none else l.find? (·.1 == b) := by
  rw [List.find?_filter]
  split
  · subst b; simp
  · congr; funext p; by_cases h : p.1 = b <;> simp_all

theorem find?_fst_cons_filter_ne {β : Type} (l : List (Nat × β)) (a b : Nat) (v : β) :
    ((a, v) :: l.filter (·.1 != a)).find? (·.1 == b) = if b = a then some (a, v) else l.find? (·.1 == b) := by
  by_cases h : b = a
  · simp [h]
  · rw [List.find?_cons_of_neg (by simpa using Ne.symm h), find?_fst_filter_ne]
    simp [h]

end Cache
