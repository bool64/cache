import CacheModel.Backend

/- What `Trait.TTL` and `Trait.expireAt` compute, and how far the jitter moves a ttl. -/
namespace Cache

/-- Effective ttl before jitter. -/
def effTTL (cfg : Cfg) (ctxTTL : Int) : Int := if ctxTTL = 0 then cfg.ttl else ctxTTL

theorem expireAt_eq (ttl : Int) (now : Time) : expireAt ttl now = if ttl = 0 then 0 else now + ttl := by
  simp [expireAt, Gen.expireAtNonZero]

theorem ttlOf_fst (cfg : Cfg) (ctxTTL : Int) (rn rd : Nat) : (ttlOf cfg ctxTTL rn rd).1 =
    if ctxTTL = 0 ∧ cfg.ttl = -1 then 0
    else effTTL cfg ctxTTL + if 0 < cfg.jn then jitterDelta cfg (effTTL cfg ctxTTL) rn rd else 0 := by
  unfold ttlOf effTTL
  by_cases h0 : ctxTTL = 0 <;> by_cases hu : cfg.ttl = -1 <;> by_cases hj : 0 < cfg.jn <;>
    simp [Gen.ttlIsDefault, Gen.cfgIsUnlimited, Gen.jitterOn, h0, hu, hj]

/-- `expirationsSet` is bumped exactly when an Unlimited cache hands out a ttl. -/
theorem ttlOf_snd (cfg : Cfg) (ctxTTL : Int) (rn rd : Nat) :
    (ttlOf cfg ctxTTL rn rd).2 = decide (cfg.ttl = -1 ∧ (ttlOf cfg ctxTTL rn rd).1 ≠ 0) := by
  unfold ttlOf
  split
  · simp
  · rw [Bool.eq_iff_iff]; simp [Gen.bumpExpirationsSet]

/-- `|δ| ≤ ⌊|T|·J/2⌋`: the numerator's last factor `2·rn − rd` is at most `rd`, which cancels. -/
theorem natAbs_jitterDelta_le (cfg : Cfg) (T : Int) {rn rd : Nat} (hr : rn < rd) :
    (jitterDelta cfg T rn rd).natAbs ≤ T.natAbs * cfg.jn.natAbs / (2 * cfg.jd) := by
  have hd : (2 * (rn : Int) - rd).natAbs ≤ rd := by omega
  unfold jitterDelta
  rw [Int.natAbs_tdiv, Int.natAbs_mul, Int.natAbs_mul]
  calc _ ≤ T.natAbs * cfg.jn.natAbs * rd / (2 * cfg.jd * rd) := Nat.div_le_div_right (Nat.mul_le_mul_left _ hd)
    _ = _ := Nat.mul_div_mul_right _ _ (by omega)

theorem two_natAbs_jitterDelta_le (cfg : Cfg) (T : Int) {rn rd : Nat} (hjn : 0 < cfg.jn) (hjd : 0 < cfg.jd)
    (hj1 : cfg.jn ≤ cfg.jd) (hr : rn < rd) : 2 * (jitterDelta cfg T rn rd).natAbs ≤ T.natAbs := by
  have h := natAbs_jitterDelta_le cfg T hr
  have h2 : T.natAbs * cfg.jn.natAbs / (2 * cfg.jd) ≤ T.natAbs * cfg.jd / (2 * cfg.jd) :=
    Nat.div_le_div_right (Nat.mul_le_mul_left _ (by omega))
  rw [Nat.mul_div_mul_right _ _ hjd] at h2
  omega

end Cache
