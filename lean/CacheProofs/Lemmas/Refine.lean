import CacheProofs.Lemmas.Backend
import CacheProofs.Lemmas.Spec

/- The simulation relation between the slot-keyed store and the reference map, and its preservation by each operation
   (`C07_step_refines` puts them together). -/
namespace Cache
variable (hash : Key → Nat)

def sview (e : Entry) : Spec.SEntry := ⟨e.V, e.E⟩

/-- `m` is the abstract image of `s`: same per-key content (value, expiry), no duplicate keys, same size. -/
structure Refines (s : Store) (m : Spec.SMap) : Prop where
  get_eq : ∀ k, Spec.get m k = (s.get hash k).map sview
  nodup : (Spec.keys m).Nodup
  len_eq : m.length = s.len

variable {hash}

/-- The size need not be tracked: two duplicate-free key lists with the same members have the same length.  So each
    operation only has to be followed through `get`. -/
theorem Refines.of_get {s : Store} {m : Spec.SMap} (hw : s.WF hash)
    (hget : ∀ k, Spec.get m k = (s.get hash k).map sview) (hnd : (Spec.keys m).Nodup) : Refines hash s m := by
  refine ⟨hget, hnd, ?_⟩
  have hp : (Spec.keys m).Perm (s.walk.map (·.K)) := by
    rw [List.perm_ext_iff_of_nodup hnd (walk_keys_nodup hw)]
    intro k
    rw [← Spec.get_isSome_iff_mem_keys, hget, Option.isSome_map, Option.isSome_iff_exists, List.mem_map]
    exact exists_congr fun e => hw.get_eq_some_iff
  simpa [Spec.keys, walk_length] using hp.length_eq

theorem refines_empty : Refines hash Store.empty [] :=
  .of_get wf_empty (fun k => by simp [Spec.get_nil]) (by simp [Spec.keys])

/-- A write keeps the simulation as long as the written key shares its slot with no stored key (all that is ever
    used of the injectivity of `hash`). -/
theorem refines_write {s : Store} {m : Spec.SMap} (hw : s.WF hash) (hr : Refines hash s m) (k : Key)
    (hcol : ∀ k', k' ≠ k → hash k' = hash k → s.get hash k' = none) (v : Option Val) (E : Time) (b : Bool) :
    Refines hash (s.writeCore hash k v E b) (Spec.write m k v E) := by
  refine .of_get (wf_writeCore hw _ _ _ _) (fun k' => ?_) (Spec.nodup_put hr.nodup _ _)
  rw [Spec.write, Spec.get_put, get_writeCore, hr.get_eq]
  by_cases hkk : k' = k
  · simp [hkk, sview]
  · by_cases hh : hash k' = hash k
    · simp [hkk, hh, hcol k' hkk hh]
    · simp [hkk, hh]

theorem refines_delete {s : Store} {m : Spec.SMap} {kind : Kind} (hw : s.WF hash) (hk : KindOK hash kind)
    (hr : Refines hash s m) (k : Key) :
    Refines hash (s.delete hash kind k).1 (Spec.delete m k).1 := by
  refine .of_get ((delete_sub kind s k).wf hw) (fun k' => ?_) (Spec.nodup_remove hr.nodup _)
  rw [Spec.delete, Spec.get_remove, get_delete hw hk, hr.get_eq]
  split <;> rfl

theorem refines_expireAll {s : Store} {m : Spec.SMap} (hw : s.WF hash) (hr : Refines hash s m) (now : Time) :
    Refines hash (s.expireAll now).1 (Spec.expireAll m now) := by
  refine .of_get (wf_expireAll hw now) (fun k => ?_) (by rw [Spec.keys_expireAll]; exact hr.nodup)
  rw [Spec.get_expireAll, get_expireAll, hr.get_eq]
  cases s.get hash k <;> rfl

theorem refines_deleteAll (s : Store) (m : Spec.SMap) : Refines hash (s.deleteAll).1 (Spec.deleteAll m) :=
  .of_get (wf_deleteAll s) (fun k => by simp [Spec.deleteAll, Spec.get_nil]) (by simp [Spec.deleteAll, Spec.keys])

theorem refines_read {s : Store} {m : Spec.SMap} {kind : Kind} (cfg : Cfg) (hw : s.WF hash) (hk : KindOK hash kind)
    (hr : Refines hash s m) (k : Key) (skip : Bool) (now : Time) :
    Refines hash (s.read hash kind cfg k skip now).1 m := by
  refine .of_get (wf_read cfg hw hk _ _ _) (fun k' => ?_) hr.nodup
  rw [hr.get_eq, get_read cfg hw hk]
  split
  · rw [Option.map_map]; rfl
  · rfl

end Cache
