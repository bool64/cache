import CacheProofs.Lemmas.Backend

/- Lemmas about the cleanup cycle: deleteExpired, eviction. Whatever the janitor does to a store leaves a sub-store
   (`Store.Sub`): some slots emptied, nothing else touched. At the end, what holds of every extended step (public operation,
   cleanup cycle, restored record) and how an invariant of the steps passes to histories (`Backend.xrun_invariant`). -/
namespace Cache
open Std
variable {hash : Key → Nat}

theorem not_deleteExpiredCond_eq (kind : Kind) (E before : Int) :
    (!kind.deleteExpiredCond E before) = decide (E = 0 ∨ before ≤ E) := by
  rw [Bool.eq_iff_iff]
  cases kind <;>
    simp [Kind.deleteExpiredCond, Gen.deleteExpiredCond, Gen.deleteExpiredCondOf, Gen.deleteExpiredCondSync]

theorem deleteExpired_sub (kind : Kind) (s : Store) (before : Time) : (s.deleteExpired kind before).Sub s :=
  ⟨rfl, fun h e he => by
    simp only [Store.deleteExpired, TreeMap.getElem?_filter', Option.filter_eq_some_iff] at he; exact he.1⟩

theorem getElem?_eraseAll (m : TreeMap Nat Entry) (hs : List Nat) (h : Nat) :
    (eraseAll m hs)[h]? = if h ∈ hs then none else m[h]? := by
  induction hs generalizing m with
  | nil => simp [eraseAll]
  | cons a rest ih =>
    simp only [eraseAll, List.foldl_cons] at ih ⊢
    rw [ih, TreeMap.getElem?_erase]
    by_cases ha : a = h <;> simp [ha, Ne.symm]

theorem evict_sub (s : Store) (victims : List Nat) : (s.evict victims).Sub s :=
  ⟨rfl, fun h e he => by
    simp only [Store.evict, getElem?_eraseAll] at he
    split at he
    · cases he
    · exact he⟩

theorem get_evict (s : Store) (victims : List Nat) (k : Key) :
    (s.evict victims).get hash k = if hash k ∈ victims then none else s.get hash k := by
  simp only [Store.get_eq_filter, Store.evict, getElem?_eraseAll]
  split <;> rfl

theorem cleanupScan_sub (kind : Kind) (cfg : Cfg) (s : Store) (now : Time) : (s.cleanupScan kind cfg now).Sub s := by
  unfold Store.cleanupScan; split
  · exact deleteExpired_sub kind s _
  · exact ⟨rfl, fun _ _ he => he⟩

theorem cleanup_of_none {kind : Kind} {cfg : Cfg} {s : Store} {env : CleanupEnv}
    (h : evictPlan cfg (s.cleanupScan kind cfg env.now).len env = none) :
    s.cleanup kind cfg env = (s.cleanupScan kind cfg env.now, []) := by
  simp only [Store.cleanup, h]

theorem cleanup_sub (kind : Kind) (cfg : Cfg) (s : Store) (env : CleanupEnv) : (s.cleanup kind cfg env).1.Sub s := by
  unfold Store.cleanup
  simp only
  split
  · exact (evict_sub _ _).trans (cleanupScan_sub kind cfg s _)
  · exact cleanupScan_sub kind cfg s _

/-- The victims are the first `k` of the occupied slots in some order of non-decreasing metric. -/
theorem victims_eq (st : Strategy) (s : Store) (k : Nat) : ∃ l : List (Nat × Entry),
    s.victims st k = (l.take k).map (·.1) ∧ l.Pairwise (fun a b => metricOf st a.2 ≤ metricOf st b.2) ∧
    ∀ h e, (h, e) ∈ l ↔ s.slots[h]? = some e := by
  refine ⟨_, rfl, ?_, fun h e => List.mem_mergeSort.trans TreeMap.mem_toList_iff_getElem?_eq_some⟩
  have := List.pairwise_mergeSort (le := fun (a b : Nat × Entry) => decide (metricOf st a.2 ≤ metricOf st b.2))
    (fun a b c hab hbc => by simp only [decide_eq_true_eq] at *; omega)
    (fun a b => by simp only [Bool.or_eq_true, decide_eq_true_eq]; omega) s.slots.toList
  simpa using this

variable (hash) in
/-- Nothing in the package resets the "expirations were set" counter; a cleanup cycle only reads it. -/
theorem xstep_expirationsSet_mono (kind : Kind) (cfg : Cfg) (s : Store) (now : Time) (xop : XOp) :
    s.expirationsSet ≤ (Backend.xstep hash kind cfg s now xop).1.expirationsSet := by
  cases xop with
  | restore e => simp only [Backend.xstep, Store.restoreOne]; split <;> omega
  | cleanup ho so hn needed => exact Int.le_of_eq (cleanup_sub kind cfg s _).1.symm
  | base op =>
    cases op with
    | write k v ctxTTL rn rd | store k v rn rd =>
      simp only [Backend.xstep, Backend.step, Store.write, Store.writeCore]; split <;> omega
    | expireAll => simp only [Backend.xstep, Backend.step, Store.expireAll]; split <;> omega
    | read k skip => exact Int.le_of_eq (read_shape kind cfg s k skip now).1.symm
    | load k => exact Int.le_of_eq (read_shape kind cfg s k false now).1.symm
    | delete k => exact Int.le_of_eq (delete_sub kind s k).1.symm
    | deleteAll | len | walk => exact Int.le_refl _

theorem wf_xstep {s : Store} {kind : Kind} (cfg : Cfg) (hw : s.WF hash) (hk : KindOK hash kind) (now : Time) (xop : XOp) :
    (Backend.xstep hash kind cfg s now xop).1.WF hash := by
  cases xop with
  | restore e => exact wf_restoreOne hw e
  | cleanup ho so hn needed => exact (cleanup_sub kind cfg s _).wf hw
  | base op => exact wf_step cfg hw hk now op

theorem Backend.xrun_invariant {kind : Kind} {cfg : Cfg} {P : Store → Prop}
    (hstep : ∀ s now xop, P s → P (Backend.xstep hash kind cfg s now xop).1) (h : XHistory) :
    ∀ s, P s → P (Backend.xrun hash kind cfg s h).1 := by
  induction h with
  | nil => exact fun _ hp => hp
  | cons top rest ih => exact fun s hp => ih _ (hstep s top.1 top.2 hp)

end Cache
