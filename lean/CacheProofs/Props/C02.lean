import CacheProofs.Lemmas.Provenance
import CacheProofs.Props.C01

/-
  C02 — Failover results always have provenance; nothing is fabricated or mixed up.

  The ghost lists of the machine record, per key, every value a builder returned (`builtOk`), every error a builder
  returned (`buildErr`), every value the backend returned on a Read — fresh or stale — (`backendVals`) and every error a
  backend call returned (`backendErrs`). They are appended at the moment the builder / backend ANSWERS, so membership at
  the time a Get returns means "finished no later than the Get returned". Backend answers and builder outcomes are free
  labels: the theorems hold for every fault script, every schedule, every configuration and both API variants.
-/
namespace Cache

/-- **C02_provenance** — every result a Get has returned is `(v, nil)` with `v` built for, or stored in the backend under,
    THAT Get's key — or a non-nil error that a builder invocation for that key (possibly served from the failure cache or
    handed over by the lock owner) or a backend call for that key produced. -/
theorem C02_provenance (c : FCfg) (s : FState) (h : Reachable c s) (t : Nat) (r : GetResult)
    (hr : (s.th t).returned = some r) : Good s.g (s.th t).key r :=
  ((reachable_prov h).thr t).ret r hr

/-- It never returns a nil / zero value together with a nil error. -/
theorem C02_never_nil_nil (c : FCfg) (s : FState) (h : Reachable c s) (t : Nat) :
    (s.th t).returned ≠ some ⟨none, none⟩ := by
  intro hr
  obtain ⟨v, hv, _⟩ := (C02_provenance c s h t _ hr).1 rfl
  cases hv

/-- A returned value belongs to the Get's own key — never to another key. -/
theorem C02_no_cross_key (c : FCfg) (s : FState) (h : Reachable c s) (t : Nat) (v : Val)
    (hr : (s.th t).returned = some ⟨some v, none⟩) :
    ((s.th t).key, v) ∈ s.g.builtOk ∨ ((s.th t).key, v) ∈ s.g.backendVals := by
  obtain ⟨v', hv', hg⟩ := (C02_provenance c s h t _ hr).1 rfl
  cases hv'; exact hg

/-- A returned error belongs to the Get's own key. -/
theorem C02_error_provenance (c : FCfg) (s : FState) (h : Reachable c s) (t : Nat) (v : Option Val) (e : Err)
    (hr : (s.th t).returned = some ⟨v, some e⟩) :
    ((s.th t).key, e) ∈ s.g.buildErr ∨ ((s.th t).key, e) ∈ s.g.backendErrs :=
  (C02_provenance c s h t _ hr).2 e rfl

/-- What the lock owner publishes for the waiters has provenance for the waiters' key too. -/
theorem C02_waiters_get_owners_result (c : FCfg) (s : FState) (h : Reachable c s) (t : Nat)
    (hw : (s.th t).pc = .waiting) (hc : (s.kl (s.th t).lid).closed = true) :
    Good s.g (s.th t).key ⟨(s.kl (s.th t).lid).val, (s.kl (s.th t).lid).err⟩ := by
  have hp := reachable_prov h
  exact hp.klo t ⟨(hp.thr t).wto hw, Or.inr (Or.inr hw)⟩ hc

/-- Whatever the failure cache holds for a key is an error some builder invocation for that key returned. -/
theorem C02_failure_cache_provenance (c : FCfg) (s : FState) (h : Reachable c s) (k : Key) (e : Err) (E : Time)
    (he : s.errs k = some (e, E)) : (k, e) ∈ s.g.buildErr :=
  (reachable_prov h).ers k e E he

-- Non-vacuity: a waiter receives the value the owner built; a stale value is served; a cached failure is served.
example : ∃ s, run demoCfg01 FState.init
    [.begin 0 7 false none, .begin 1 7 false none, .readAns 0 .miss, .readAns 1 .miss, .elect 0, .elect 1,
     .local 0, .local 1, .errsRead 0 100, .local 0, .buildAns 0 (.ok 42 []), .writeAns 0 .ok, .local 0, .wake 1] = some s ∧
    (s.th 1).returned = some ⟨some 42, none⟩ ∧ (s.th 0).returned = some ⟨some 42, none⟩ := by
  refine ⟨_, rfl, ?_, ?_⟩ <;> decide
example : ∃ s, run demoCfg01 FState.init
    [.begin 0 7 false none, .readAns 0 (.stale 5 10), .elect 0, .local 0, .writeAns 0 .ok, .errsRead 0 100, .local 0] = some s ∧
    (s.th 0).returned = some ⟨some 5, none⟩ ∧ (s.th 0).pc = .building ∧ (s.th 0).bg = true := by
  refine ⟨_, rfl, ?_, ?_, ?_⟩ <;> decide
example : ∃ s, run demoCfg01 FState.init
    [.begin 0 7 false none, .readAns 0 .miss, .elect 0, .local 0, .errsRead 0 100, .local 0, .buildAns 0 (.err 9 []),
     .errsWrite 0 500, .local 0, .begin 1 7 false none, .readAns 1 .miss, .elect 1, .local 1, .errsRead 1 200] = some s ∧
    (s.th 1).returned = some ⟨none, some 9⟩ := by
  refine ⟨_, rfl, ?_⟩; decide

end Cache
