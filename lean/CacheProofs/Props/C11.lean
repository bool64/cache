import CacheProofs.Lemmas.Janitor
import CacheProofs.Lemmas.Expiry
import CacheModel.Construct

/-
  C11 — the janitor deletes only entries expired longer than DeleteExpiredAfter.

  All theorems hold for every slot function, every backend kind, and every configuration (finite or Unlimited
  TimeToLive). "No eviction limit exceeded" is the hypothesis `evictPlan … = none` (C12 shows when that is).
-/
namespace Cache
open Std
variable (hash : Key → Nat)

/-- `deleteExpired(before)` keeps an entry iff it never expires or its expiry is not before the boundary. -/
theorem C11_delete_exactly (kind : Kind) (s : Store) (before : Time) (k : Key) :
    (s.deleteExpired kind before).get hash k = (s.get hash k).filter (fun e => decide (e.E = 0 ∨ before ≤ e.E)) := by
  simp only [Store.get_eq_filter, Store.deleteExpired, TreeMap.getElem?_filter', Option.filter_filter,
    not_deleteExpiredCond_eq, Bool.and_comm]

/-- Is the delete-expired scan of a cycle enabled (finite TimeToLive, or Unlimited with an expiration set)? -/
def scanOn (cfg : Cfg) (s : Store) : Bool := Gen.scanEnabled true cfg.ttl s.expirationsSet

/-- One cleanup cycle in which no eviction limit is exceeded removes EXACTLY the entries whose expiry lies more than
    DeleteExpiredAfter before the cycle's clock reading (and nothing at all when the scan is legitimately skipped). -/
theorem C11_cycle_exactly (kind : Kind) (cfg : Cfg) (s : Store) (env : CleanupEnv)
    (hno : evictPlan cfg (s.cleanupScan kind cfg env.now).len env = none) (k : Key) :
    (s.cleanup kind cfg env).1.get hash k =
      if scanOn cfg s then (s.get hash k).filter (fun e => decide (e.E = 0 ∨ env.now - cfg.deleteExpiredAfter ≤ e.E))
      else s.get hash k := by
  rw [cleanup_of_none hno]
  unfold Store.cleanupScan scanOn
  split
  · exact C11_delete_exactly hash kind s _ k
  · rfl

/-- Any number of cycles (clock readings arbitrary), no limit exceeded in any of them: an entry survives iff it
    never expires, or every scanning cycle found its expiry no more than DeleteExpiredAfter in the past. In particular
    never-expiring, fresh and recently expired entries survive any number of cycles. -/
theorem C11_cycles (kind : Kind) (cfg : Cfg) (envs : List CleanupEnv) :
    ∀ (s : Store),
    (∀ s' : Store, ∀ env ∈ envs, evictPlan cfg (s'.cleanupScan kind cfg env.now).len env = none) →
    ∀ k, (envs.foldl (fun s env => (s.cleanup kind cfg env).1) s).get hash k =
      (s.get hash k).filter (fun e => decide (e.E = 0 ∨ ¬ scanOn cfg s ∨ ∀ env ∈ envs, env.now - cfg.deleteExpiredAfter ≤ e.E)) := by
  induction envs with
  | nil => intro s _ k; show s.get hash k = _; cases s.get hash k <;> simp [Option.filter]
  | cons env rest ih =>
    intro s hno k
    -- the scan is switched by the counter alone, and a cycle leaves the counter as it is
    have hon : scanOn cfg (s.cleanup kind cfg env).1 = scanOn cfg s :=
      congrArg (Gen.scanEnabled true cfg.ttl) (cleanup_sub kind cfg s env).1
    rw [List.foldl_cons, ih _ (fun s' env' h' => hno s' env' (List.mem_cons_of_mem _ h')),
      C11_cycle_exactly hash kind cfg s env (hno s env List.mem_cons_self), hon]
    cases scanOn cfg s
    · simp
    · simp only [if_true, Option.filter_filter]
      congr; funext e
      by_cases h0 : e.E = 0 <;> simp [h0]

/-- "Scan disabled ⇒ every stored entry has no expiry", plus the counter never goes negative. -/
def ScanInv (cfg : Cfg) (s : Store) : Prop :=
  0 ≤ s.expirationsSet ∧ (scanOn cfg s = false → ∀ k e, s.get hash k = some e → e.E = 0)

theorem scanOn_false_iff (cfg : Cfg) (s : Store) : scanOn cfg s = false ↔ cfg.ttl = -1 ∧ s.expirationsSet ≤ 0 := by
  unfold scanOn Gen.scanEnabled
  by_cases h1 : cfg.ttl = -1 <;> by_cases h2 : s.expirationsSet > 0 <;> simp [h1, h2] <;> omega

theorem write_no_expiry {cfg : Cfg} (hu : cfg.ttl = -1) {s : Store} {k : Key} {v : Option Val} {ctxTTL : Int} {now : Time}
    {rn rd : Nat} (hes : (s.write hash cfg k v ctxTTL now rn rd).1.expirationsSet ≤ s.expirationsSet) :
    expireAt (ttlOf cfg ctxTTL rn rd).1 now = 0 := by
  have hb : (ttlOf cfg ctxTTL rn rd).2 = false := by
    cases hb : (ttlOf cfg ctxTTL rn rd).2 <;> simp [Store.write, Store.writeCore, hb] at hes ⊢; omega
  have : (ttlOf cfg ctxTTL rn rd).1 = 0 := by simpa [ttlOf_snd, hu] using hb
  simp [this, expireAt_eq]

/-- While the scan of an Unlimited cache is off, whatever a step leaves in the store has no expiry: it was there before
    (possibly touched by a Read), or the step stored it — and storing an expiry, like ExpireAll on a non-empty cache,
    would have moved the counter and so switched the scan on. -/
theorem scanInv_xstep {s : Store} {kind : Kind} (cfg : Cfg) (hw : s.WF hash) (hk : KindOK hash kind)
    (hi : ScanInv hash cfg s) (now : Time) (xop : XOp) : ScanInv hash cfg (Backend.xstep hash kind cfg s now xop).1 := by
  have hle := xstep_expirationsSet_mono hash kind cfg s now xop
  refine ⟨Int.le_trans hi.1 hle, fun hoff k e' he' => ?_⟩
  have ⟨hu, hs'⟩ := (scanOn_false_iff cfg _).mp hoff
  have hes : (Backend.xstep hash kind cfg s now xop).1.expirationsSet ≤ s.expirationsSet := by have := hi.1; omega
  have old : ∀ {e}, s.get hash k = some e → e.E = 0 := hi.2 ((scanOn_false_iff cfg s).mpr ⟨hu, by omega⟩) k _
  cases xop with
  | restore e =>
    rcases get_insert_some (e := e) rfl he' with rfl | h0
    · by_cases h0 : e'.E = 0
      · exact h0
      · simp [Backend.xstep, Store.restoreOne, h0] at hes; omega
    · exact old h0
  | cleanup ho so hn needed => exact old ((cleanup_sub kind cfg s _).get he')
  | base op =>
    cases op with
    | write k₀ v ctxTTL rn rd | store k₀ v rn rd =>
      rcases get_insert_some (e := ⟨k₀, v, _, 0⟩) rfl he' with rfl | h0
      · exact write_no_expiry hash hu hes
      · exact old h0
    | read k₀ skip =>
      have ⟨e, he, _, hE⟩ := get_read_some cfg hw hk he'
      exact hE ▸ old he
    | load k₀ =>
      have ⟨e, he, _, hE⟩ := get_read_some cfg hw hk (skip := false) he'
      exact hE ▸ old he
    | delete k₀ => exact old ((delete_sub kind s k₀).get he')
    | expireAll =>
      rw [Backend.xstep, Backend.step, get_expireAll, Option.map_eq_some_iff] at he'
      obtain ⟨e, he, -⟩ := he'
      -- a non-empty cache: ExpireAll moved the counter
      simp only [Backend.xstep, Backend.step, Store.expireAll, size_pos_of_get he, if_true] at hes
      omega
    | deleteAll => simp [Backend.xstep, Backend.step] at he'
    | len | walk => exact old he'

/-- **C11_scan_skip_sound** — along every history of public operations, cleanup cycles and restored records, starting
    from the empty cache: whenever the cleanup scan is skipped (Unlimited TimeToLive and no expiration recorded), no stored
    entry has an expiry, so skipping deletes nothing it should have. -/
theorem C11_scan_skip_sound (kind : Kind) (cfg : Cfg) (hk : KindOK hash kind) (h : XHistory) :
    ∀ s : Store, s.WF hash → ScanInv hash cfg s →
      ScanInv hash cfg (Backend.xrun hash kind cfg s h).1 ∧ (Backend.xrun hash kind cfg s h).1.WF hash :=
  fun s hw hi => Backend.xrun_invariant (hash := hash) (P := fun s => ScanInv hash cfg s ∧ s.WF hash)
    (fun _ now xop hp => ⟨scanInv_xstep hash cfg hp.2 hk hp.1 now xop, wf_xstep cfg hp.2 hk now xop⟩) h s ⟨hi, hw⟩

/-- **C11_scan_stays_enabled** — along every history of public operations, cleanup cycles and restored records the
    counter never decreases, so once the cleanup scan of an Unlimited cache has been switched on (a per-call TTL, an
    ExpireAll, a restored expiring record) it stays on for every later cycle: an entry that was still fresh or only
    recently expired at one cycle is still looked at by all the following ones. -/
theorem C11_scan_stays_enabled (kind : Kind) (cfg : Cfg) (h : XHistory) : ∀ s : Store,
    s.expirationsSet ≤ (Backend.xrun hash kind cfg s h).1.expirationsSet ∧
    (scanOn cfg s = true → scanOn cfg (Backend.xrun hash kind cfg s h).1 = true) := by
  intro s
  have hmono := Backend.xrun_invariant (hash := hash) (kind := kind) (cfg := cfg) (P := fun s' => s.expirationsSet ≤ s'.expirationsSet)
    (fun s' now xop hp => Int.le_trans hp (xstep_expirationsSet_mono hash kind cfg s' now xop)) h s (Int.le_refl _)
  refine ⟨hmono, ?_⟩
  simp only [← Bool.not_eq_false, scanOn_false_iff]
  omega

theorem scanInv_empty (cfg : Cfg) : ScanInv hash cfg Store.empty :=
  ⟨by simp [Store.empty], fun _ k e he => by simp at he⟩

/-- **C11_default_backend_config_unaltered** — the backend a Failover / FailoverOf creates when none is given is configured
    with `BackendConfig` as the user wrote it (whatever the failover's own settings, e.g. MaxStaleness): in particular its
    janitor works with the user's DeleteExpiredAfter, so `C11_cycle_exactly` speaks about it with that value. -/
theorem C11_default_backend_config_unaltered (v : Variant) (backendConfig altered : Cfg) :
    defaultBackendCfg v backendConfig altered = backendConfig ∧
    (defaultBackendCfg v backendConfig altered).deleteExpiredAfter = backendConfig.deleteExpiredAfter := by
  cases v <;> simp [defaultBackendCfg, backendCfgPassthrough, Gen.backendCfgPassthrough, Gen.backendCfgPassthroughOf]

/-- `C11_scan_stays_enabled` is not vacuous: one per-call TTL switches the scan of an Unlimited cache on. -/
example :
    let cfg : Cfg := { ttl := -1, jn := -1, jd := 1, strategy := .mostExpired, deleteExpiredAfter := 100, countSoftLimit := 0, efn := 1, efd := 2 }
    let s1 := (Backend.xrun id .sharded cfg Store.empty [(1000, .base (.write 2 (some 2) 500 0 1))]).1
    let h : XHistory := [(1010, .cleanup false false false false), (1020, .base (.write 1 (some 1) 0 0 1)),
                         (1030, .cleanup false false false false)]
    scanOn cfg Store.empty = false ∧ scanOn cfg s1 = true ∧ scanOn cfg (Backend.xrun id .sharded cfg s1 h).1 = true := by
  decide +kernel

-- a never-expiring, a fresh, a recently and a long expired entry: the cycle deletes the last one only
example :
    let cfg : Cfg := { ttl := -1, jn := -1, jd := 1, strategy := .mostExpired, deleteExpiredAfter := 100, countSoftLimit := 0, efn := 1, efd := 2 }
    let h : XHistory := [(1000, .base (.write 1 (some 1) 0 0 1)), (1000, .base (.write 2 (some 2) 500 0 1)),
                         (1000, .base (.write 3 (some 3) (-50) 0 1)), (1000, .base (.write 4 (some 4) (-500) 0 1)),
                         (1010, .cleanup false false false false)]
    ((Backend.xrun id .sharded cfg Store.empty h).1.walk.map (·.K)) = [1, 2, 3] := by decide +kernel

end Cache
