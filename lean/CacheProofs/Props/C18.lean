import CacheProofs.Lemmas.Backend
import CacheModel.Construct

/-
  C18 — metrics account for every cache event exactly once (backend half; the Failover counters are in C18F).

  Every model step emits its metric events; the theorems say the totals a stats tracker accumulates equal the number
  of events of each kind in the history — nothing dropped, nothing counted twice — for every history, hash function,
  backend kind and configuration.
-/
namespace Cache
variable (hash : Key → Nat)

def readEvents : List Metric → Nat
  | [] => 0
  | .hit :: r => 1 + readEvents r
  | .miss :: r => 1 + readEvents r
  | .expired n :: r => n + readEvents r
  | _ :: r => readEvents r

def writeEvents : List Metric → Nat
  | [] => 0
  | .write :: r => 1 + writeEvents r
  | _ :: r => writeEvents r

def deleteEvents : List Metric → Nat
  | [] => 0
  | .delete n :: r => n + deleteEvents r
  | _ :: r => deleteEvents r

theorem events_append (a b : List Metric) :
    readEvents (a ++ b) = readEvents a + readEvents b ∧ writeEvents (a ++ b) = writeEvents a + writeEvents b ∧
    deleteEvents (a ++ b) = deleteEvents a + deleteEvents b := by
  induction a with
  | nil => simp [readEvents, writeEvents, deleteEvents]
  | cons m r ih =>
    cases m <;> simp only [List.cons_append, readEvents, writeEvents, deleteEvents, ih, Nat.add_assoc, and_self]

/-- The totals a tracker accumulates are exactly these sums. -/
theorem C18_totals_are_sums (t : Totals) (ms : List Metric) :
    (t.addAll ms).hit + (t.addAll ms).miss + (t.addAll ms).expired = t.hit + t.miss + t.expired + readEvents ms ∧
    (t.addAll ms).write = t.write + writeEvents ms ∧
    (t.addAll ms).delete = t.delete + deleteEvents ms := by
  induction ms generalizing t with
  | nil => exact ⟨rfl, rfl, rfl⟩
  | cons m r ih =>
    simp only [Totals.addAll, List.foldl_cons] at ih ⊢
    cases m <;> simp +arith only [ih, Totals.add, readEvents, writeEvents, deleteEvents, and_self]

/-- What one operation must contribute: (reads counted, writes counted, deletes counted). -/
def expectedCounts (s : Store) : Op → Out → Nat × Nat × Nat
  | .read _ skip, _ => (if skip then 0 else 1, 0, 0)
  | .load _, _ => (1, 0, 0)
  | .expireAll, _ => (s.len, 0, 0)                 -- every entry touched by ExpireAll counts as expired
  | .write .., _ => (0, 1, 0)
  | .store .., _ => (0, 1, 0)
  | .delete _, .deleted ok => (0, 0, if ok then 1 else 0)
  | .deleteAll, _ => (0, 0, s.len)
  | _, _ => (0, 0, 0)

theorem read_counts (kind : Kind) (cfg : Cfg) (s : Store) (k : Key) (skip : Bool) (now : Time) :
    let ms := (s.read hash kind cfg k skip now).2.2
    (readEvents ms, writeEvents ms, deleteEvents ms) = (if skip then 0 else 1, 0, 0) := by
  simp only [(read_shape kind cfg s k skip now).2]
  cases skip
  · cases (s.read hash kind cfg k false now).2.1 <;> rfl
  · rfl

/-- One step emits exactly its events. -/
theorem C18_step_counts (kind : Kind) (cfg : Cfg) (s : Store) (now : Time) (op : Op) :
    let r := Backend.step hash kind cfg s now op
    (readEvents r.2.2, writeEvents r.2.2, deleteEvents r.2.2) = expectedCounts s op r.2.1 := by
  cases op with
  | read k skip => exact read_counts hash kind cfg s k skip now
  | load k => exact read_counts hash kind cfg s k false now
  | delete k =>
    simp only [Backend.step, expectedCounts, Store.delete]
    split <;> rfl
  | _ => rfl

/-- Expected totals of a whole history (the intermediate stores matter for the batch operations). -/
def expectedRun (kind : Kind) (cfg : Cfg) : Store → History → Nat × Nat × Nat
  | _, [] => (0, 0, 0)
  | s, (now, op) :: rest =>
    let r := Backend.step hash kind cfg s now op
    let e := expectedCounts s op r.2.1
    let er := expectedRun kind cfg r.1 rest
    (e.1 + er.1, e.2.1 + er.2.1, e.2.2 + er.2.2)

/-- **C18_backend_totals** — for every history: hit+miss+expired = non-skipped reads + entries touched by ExpireAll,
    write = number of writes, delete = entries removed by Delete / DeleteAll. -/
theorem C18_backend_totals (kind : Kind) (cfg : Cfg) (h : History) :
    ∀ s : Store,
      let ms := (Backend.run hash kind cfg s h).2.2
      (readEvents ms, writeEvents ms, deleteEvents ms) = expectedRun hash kind cfg s h := by
  induction h with
  | nil => intro s; rfl
  | cons top rest ih =>
    intro s
    obtain ⟨now, op⟩ := top
    have hs := C18_step_counts hash kind cfg s now op
    have hr := ih (Backend.step hash kind cfg s now op).1
    simp only [Backend.run, expectedRun, events_append]
    rw [← hs, ← hr]

/-- A cleanup cycle contributes one `cache_evict` event carrying the number of evicted entries when (and only when)
    eviction was triggered; it never touches the read / write / delete counters. -/
theorem C18_cleanup_metrics (kind : Kind) (cfg : Cfg) (s : Store) (env : CleanupEnv) :
    (s.cleanup kind cfg env).2 =
      match evictPlan cfg (s.cleanupScan kind cfg env.now).len env with
      | some k => [.evict k]
      | none => [] := by
  unfold Store.cleanup; split <;> simp_all

/-- **C18_default_backend_reports_under_failover_name** — the backend a Failover / FailoverOf creates when none is given counts
    its events with the tracker and under the name given to the failover: the totals of `C18_backend_totals` are found under
    that label, next to the failover's own counters. -/
theorem C18_default_backend_reports_under_failover_name (v : Variant) (failoverName altered : String) :
    defaultBackendName v failoverName altered = failoverName := by
  cases v <;> simp [defaultBackendName, backendCfgPassthrough, backendCfgIdentity, Gen.backendCfgPassthrough,
    Gen.backendCfgPassthroughOf, Gen.backendCfgIdentity, Gen.backendCfgIdentityOf]

example :
    let cfg : Cfg := { ttl := -1, jn := -1, jd := 1, strategy := .lfu, deleteExpiredAfter := 10, countSoftLimit := 0, efn := 1, efd := 2 }
    let h : History := [(100, .write 1 (some 11) 0 0 1), (101, .write 2 (some 22) (-30) 0 1), (110, .read 1 false),
      (111, .read 2 false), (112, .read 3 false), (113, .read 1 true), (120, .expireAll), (130, .delete 2), (131, .delete 2), (140, .deleteAll)]
    expectedRun id .sharded cfg Store.empty h = (5, 2, 2) := by decide +kernel

end Cache
