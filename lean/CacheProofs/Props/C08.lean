import CacheProofs.Lemmas.Linz

/-
  C08 — per-key linearizability of the backends under concurrent use (PARTIAL by nature).

  What is proved:
  * the verdict of the executable checker the correspondence run applies to every observed per-slot history is sound: a
    history it accepts has a witness order that is a permutation of the events, respects real-time precedence and replays
    sequentially on the proved backend model (`C08_verdict_sound`);
  * the one operation of the sharded maps that is NOT a single lock-delimited section — `Read`: fetch the entry pointer under
    the read lock, evaluate the fetched entry after unlocking, while `ExpireAll` rewrites the expiry of live entries in
    place — still takes effect at one instant inside its interval, for every interleaving of other operations' sections
    (`C08_read_linearizes`). All other operations touch a slot in one lock-delimited section, which is their
    linearization point.
  Assumed, not proved: sync.RWMutex / sync.Map provide mutual exclusion and linearizable single-key operations; Go map
  iteration yields every entry present during the whole iteration exactly once. The implementation side is statistical
  (free-running goroutines), since the real scheduler cannot be steered inside the backends without editing them.
-/
namespace Cache.Linz

/-- Declarative linearizability of a per-slot history w.r.t. the sequential backend model. -/
def Linearizable (init : Store) (evs : List Event) : Prop :=
  ∃ order : List Nat,
    order.length = evs.length ∧ order.Nodup ∧ (∀ e ∈ evs, e.id ∈ order) ∧
    (∀ a ∈ evs, ∀ b ∈ evs, a.ret < b.inv → ∃ ia ib, order.idxOf? a.id = some ia ∧ order.idxOf? b.id = some ib ∧ ia < ib) ∧
    replay evs init order = true

theorem C08_witness_sound (init : Store) (evs : List Event) (w : List Nat) (h : checkWitness init evs w = true) :
    Linearizable init evs :=
  ⟨w, checkWitness_iff.1 h⟩

theorem linearizable_eq_some {init : Store} {evs : List Event} {w : List Nat} (h : linearizable init evs = some w) :
    checkWitness init evs w = true := by
  unfold linearizable at h
  split at h
  · split at h
    · cases h; assumption
    · cases h
  · cases h

/-- **C08_verdict_sound** — whenever the driver reports "linearizable", the history is linearizable. -/
theorem C08_verdict_sound (init : Store) (evs : List Event) (w : List Nat) (h : linearizable init evs = some w) :
    Linearizable init evs :=
  C08_witness_sound init evs w (linearizable_eq_some h)

/-- One slot of a sharded map as the Go heap sees it: the map holds a POINTER (`cur`) to an entry object; objects live in
    `heap` and are never freed while referenced. -/
structure SlotHeap where
  cur : Option Nat := none
  heap : Nat → Entry := fun _ => default
  next : Nat := 0

/-- The lock-delimited sections other operations perform on the slot. -/
inductive Sec
  | write (e : Entry)                 -- Write / Restore: allocate a fresh object, point the slot at it
  | remove                            -- Delete (key matched) / DeleteAll / deleteExpired / evict: unlink the object
  | expireAll (t : Time)              -- ExpireAll: rewrite the expiry of the LINKED object in place
  | other                             -- any section that does not touch this slot
  deriving Repr

def SlotHeap.apply (σ : SlotHeap) : Sec → SlotHeap
  | .write e => { cur := some σ.next, heap := fun i => if i = σ.next then e else σ.heap i, next := σ.next + 1 }
  | .remove => { σ with cur := none }
  | .expireAll t =>
    match σ.cur with
    | some i => { σ with heap := fun j => if j = i then { σ.heap i with E := t } else σ.heap j }
    | none => σ
  | .other => σ

def SlotHeap.run (σ : SlotHeap) (secs : List Sec) : SlotHeap := secs.foldl SlotHeap.apply σ

/-- What `PrepareRead` answers for an entry object at clock reading `now`. -/
def classify (e : Entry) (now : Time) : ReadOut :=
  if Gen.isExpired e.E now then .expired e.V e.E else .hit e.V

def atomicRead (σ : SlotHeap) (now : Time) : ReadOut :=
  match σ.cur with
  | some i => classify (σ.heap i) now
  | none => .miss

/-- The real Read: the pointer fetched at `σ0`, the object evaluated after the sections `mid` of other goroutines ran. -/
def twoPhaseRead (σ0 : SlotHeap) (mid : List Sec) (now : Time) : ReadOut :=
  match σ0.cur with
  | some i => classify ((σ0.run mid).heap i) now
  | none => .miss

def WFHeap (σ : SlotHeap) : Prop := ∀ i, σ.cur = some i → i < σ.next

theorem run_snoc (σ : SlotHeap) (secs : List Sec) (s : Sec) : σ.run (secs ++ [s]) = (σ.run secs).apply s := by
  simp [SlotHeap.run, List.foldl_append]

theorem next_le_apply (σ : SlotHeap) (s : Sec) : σ.next ≤ (σ.apply s).next := by
  cases s with
  | write e => exact Nat.le_succ _
  | expireAll t => unfold SlotHeap.apply; cases σ.cur <;> exact Nat.le_refl _
  | _ => exact Nat.le_refl _

theorem next_le_run (σ : SlotHeap) (secs : List Sec) : σ.next ≤ (σ.run secs).next :=
  secs.foldlRecOn SlotHeap.apply (motive := fun τ => σ.next ≤ τ.next) (Nat.le_refl _) fun τ ih s _ =>
    Nat.le_trans ih (next_le_apply τ s)

theorem apply_heap_or_linked {σ : SlotHeap} {i : Nat} (hi : i < σ.next) (s : Sec) :
    (σ.apply s).heap i = σ.heap i ∨ (σ.apply s).cur = some i := by
  cases s with
  | write e => exact .inl (by simp [SlotHeap.apply, Nat.ne_of_lt hi])
  | expireAll t =>
    unfold SlotHeap.apply
    cases σ.cur with
    | none => exact .inl rfl
    | some j =>
      by_cases hij : i = j
      · exact .inr (hij ▸ rfl)
      · exact .inl (by simp [hij])
  | _ => exact .inl rfl

/-- The invariant: the content the fetched object `i` has after any prefix of `mid` it already had at an instant at which the
    slot still pointed at it — at the fetch, or right after the last `expireAll` that rewrote it while linked. -/
theorem fetched_linked {σ0 : SlotHeap} {i : Nat} (hc : σ0.cur = some i) (hi : i < σ0.next) (mid : List Sec) :
    ∀ n, n ≤ mid.length → ∃ k, k ≤ n ∧ (σ0.run (mid.take k)).cur = some i ∧
      (σ0.run (mid.take k)).heap i = (σ0.run (mid.take n)).heap i := by
  intro n
  induction n with
  | zero => exact fun _ => ⟨0, Nat.le_refl _, hc, rfl⟩
  | succ n ih =>
    intro hn
    obtain ⟨k, hk, hcur, hheap⟩ := ih (Nat.le_of_succ_le hn)
    have hs : σ0.run (mid.take (n + 1)) = (σ0.run (mid.take n)).apply mid[n] := by
      rw [List.take_succ_eq_append_getElem hn, run_snoc]
    rcases apply_heap_or_linked (Nat.lt_of_lt_of_le hi (next_le_run σ0 (mid.take n))) mid[n] with h | h
    · exact ⟨k, Nat.le_succ_of_le hk, hcur, hs ▸ hheap.trans h.symm⟩
    · exact ⟨n + 1, Nat.le_refl _, hs ▸ h, rfl⟩

/-- **C08_read_linearizes** — for every interleaving `mid` of other operations' sections between the pointer fetch and the
    evaluation, the two-phase Read returns exactly what an atomic Read would return at SOME instant in between (after a prefix
    of `mid`): either at the fetch, or right after the last ExpireAll that rewrote the fetched — still linked — entry. -/
theorem C08_read_linearizes (σ0 : SlotHeap) (hwf : WFHeap σ0) (now : Time) (mid : List Sec) :
    ∃ k, k ≤ mid.length ∧ twoPhaseRead σ0 mid now = atomicRead (σ0.run (mid.take k)) now := by
  cases hc : σ0.cur with
  | none => exact ⟨0, Nat.zero_le _, by simp [twoPhaseRead, atomicRead, SlotHeap.run, hc]⟩
  | some i =>
    obtain ⟨k, hk, hcur, hheap⟩ := fetched_linked hc (hwf i hc) mid _ (Nat.le_refl _)
    exact ⟨k, hk, by simp [twoPhaseRead, atomicRead, hc, hcur, hheap]⟩

example : linearizable {} [⟨1, .write 1 5 false, .unit, 1, 4⟩, ⟨2, .read 1, .hit 5, 2, 6⟩, ⟨3, .read 1, .miss, 2, 3⟩] = some [3, 1, 2] := by
  decide +kernel
example : linearizable {} [⟨1, .write 1 5 false, .unit, 1, 2⟩, ⟨2, .read 1, .miss, 3, 4⟩] = none := by decide +kernel
-- a Read that fetched the entry before ExpireAll and evaluated it afterwards answers "expired": the instant right after ExpireAll
example :
    let σ0 : SlotHeap := ({} : SlotHeap).apply (.write { K := 1, V := some 9, E := 0, C := 0 })
    twoPhaseRead σ0 [.expireAll 7] 10 = .expired (some 9) 7 ∧ atomicRead σ0 10 = .hit (some 9) := by decide

end Cache.Linz
