import CacheModel.Invalidator

/-
  C17 — Invalidator runs all callbacks, at most once per SkipInterval.

  The mutex spanning check, stamp and callbacks makes concurrent calls a sequence of `invalidate` steps with
  non-decreasing clock readings (`tCheck ≤ tStamp ≤ next tCheck`); the theorems quantify over every such sequence,
  every number of callbacks and every SkipInterval.
-/
namespace Cache

/-- The interval in force (0 is replaced by the default, 15 s). -/
def Invalidator.effSkip (i : Invalidator) : Int :=
  if i.skipInterval = 0 then Gen.defaultSkipInterval else i.skipInterval

/-- No callbacks registered: `ErrNothingToInvalidate`, nothing runs, nothing changes. -/
theorem C17_nothing_to_invalidate (i : Invalidator) (tc ts : Time) :
    i.invalidate 0 tc ts = (i, .nothing) := by
  simp [Invalidator.invalidate, Gen.nothingToInvalidate]

@[simp] theorem Invalidator.effSkip_effSkip (i : Invalidator) (l : Option Time) :
    ({ lastRun := l, skipInterval := i.effSkip } : Invalidator).effSkip = i.effSkip := by
  unfold Invalidator.effSkip; split <;> simp [*]

theorem Invalidator.invalidate_cases (i : Invalidator) (ncb : Nat) (tc ts : Time) :
    (ncb = 0 ∧ i.invalidate ncb tc ts = (i, .nothing)) ∨
    ((∃ last, i.lastRun = some last ∧ tc - last < i.effSkip) ∧
      i.invalidate ncb tc ts = ({ i with skipInterval := i.effSkip }, .already)) ∨
    ((∀ last, i.lastRun = some last → i.effSkip ≤ tc - last) ∧
      i.invalidate ncb tc ts = ({ lastRun := some ts, skipInterval := i.effSkip }, .ran (List.range ncb))) := by
  have h0 : Gen.nothingToInvalidate (ncb : Int) = true ↔ ncb = 0 := by simp [Gen.nothingToInvalidate]
  have he : (if Gen.skipIntervalIsDefault i.skipInterval then Gen.defaultSkipInterval else i.skipInterval) = i.effSkip := by
    simp [Gen.skipIntervalIsDefault, Invalidator.effSkip]
  have hk : ∀ last, Gen.invalidatorSkip (tc - last) i.effSkip = true ↔ tc - last < i.effSkip := by
    simp [Gen.invalidatorSkip]
  unfold Invalidator.invalidate
  simp only [h0, he, hk]
  by_cases hn : ncb = 0
  · exact .inl ⟨hn, if_pos hn⟩
  · rw [if_neg hn]
    cases hl : i.lastRun with
    | none => exact .inr (.inr ⟨nofun, rfl⟩)
    | some last =>
      by_cases hlt : tc - last < i.effSkip
      · exact .inr (.inl ⟨⟨last, rfl, hlt⟩, if_pos hlt⟩)
      · exact .inr (.inr ⟨fun l h => by cases h; omega, if_neg hlt⟩)

/-- A call is accepted iff it is the first one or at least SkipInterval has elapsed since the last accepted stamp;
    an accepted call runs every callback exactly once in registration order and stamps `tStamp`;
    a rejected call runs none and keeps the stamp. -/
theorem C17_accept_reject (i : Invalidator) (ncb : Nat) (hn : ncb ≠ 0) (tc ts : Time) :
    (i.invalidate ncb tc ts).2 =
      (match i.lastRun with
       | none => .ran (List.range ncb)
       | some last => if tc - last < i.effSkip then .already else .ran (List.range ncb)) ∧
    (i.invalidate ncb tc ts).1.lastRun =
      (match i.lastRun with
       | none => some ts
       | some last => if tc - last < i.effSkip then some last else some ts) ∧
    (i.invalidate ncb tc ts).1.effSkip = i.effSkip := by
  rcases i.invalidate_cases ncb tc ts with ⟨h0, -⟩ | ⟨⟨last, hl, hlt⟩, h⟩ | ⟨hel, h⟩
  · exact absurd h0 hn
  · simp [h, hl, hlt]
  · rw [h]
    cases hl : i.lastRun with
    | none => simp
    | some last => simp [Int.not_lt.2 (hel last hl)]

/-- The callbacks of an accepted call: `0, 1, …, n−1`, each exactly once, in order. -/
theorem C17_all_callbacks_once_in_order (ncb : Nat) :
    (List.range ncb).length = ncb ∧ (List.range ncb).Nodup ∧ ∀ j (h : j < (List.range ncb).length), (List.range ncb)[j] = j :=
  ⟨List.length_range, List.nodup_range, fun _ => List.getElem_range⟩

/-- Schedules the mutex allows: each call's stamp is not before its check, and the next call checks no earlier. -/
def Monotone : Time → List InvCall → Prop
  | _, [] => True
  | t, c :: rest => t ≤ c.tCheck ∧ c.tCheck ≤ c.tStamp ∧ Monotone c.tStamp rest

/-- **C17_spacing** — in every admissible schedule, whenever a call is ACCEPTED while a previous accepted stamp `last`
    exists, at least SkipInterval has elapsed since that stamp: `tCheck − last ≥ SkipInterval`. Stated on one step with an
    arbitrary prior state, it holds at every position of every run. -/
theorem C17_spacing (i : Invalidator) (ncb : Nat) (tc ts : Time) (last : Time) (hl : i.lastRun = some last)
    (cbs : List Nat) (hacc : (i.invalidate ncb tc ts).2 = .ran cbs) :
    i.effSkip ≤ tc - last := by
  rcases i.invalidate_cases ncb tc ts with ⟨-, h⟩ | ⟨-, h⟩ | ⟨hel, -⟩
  · rw [h] at hacc; cases hacc
  · rw [h] at hacc; cases hacc
  · exact hel last hl

/-- A rejected call reports `ErrAlreadyInvalidated`, runs no callback and leaves the stamp alone, so it never delays
    or advances later acceptances. -/
theorem C17_rejected_runs_none (i : Invalidator) (ncb : Nat) (tc ts : Time)
    (hrej : (i.invalidate ncb tc ts).2 = .already) :
    (i.invalidate ncb tc ts).1.lastRun = i.lastRun := by
  rcases i.invalidate_cases ncb tc ts with ⟨-, h⟩ | ⟨-, h⟩ | ⟨-, h⟩
  · rw [h] at hrej; cases hrej
  · rw [h]
  · rw [h] at hrej; cases hrej

/-- The stamps of the calls of a schedule that `invalidate` accepts, starting from `i`, in order. -/
def acceptedStamps : Invalidator → List InvCall → List Time
  | _, [] => []
  | i, c :: rest =>
    match (i.invalidate c.ncb c.tCheck c.tStamp).2 with
    | .ran _ => c.tStamp :: acceptedStamps (i.invalidate c.ncb c.tCheck c.tStamp).1 rest
    | _ => acceptedStamps (i.invalidate c.ncb c.tCheck c.tStamp).1 rest

/-- Run level: consecutive accepted stamps of any admissible schedule differ by at least SkipInterval. -/
theorem C17_run_spacing (cs : List InvCall) : ∀ (i : Invalidator) (t : Time),
    Monotone t cs → (∀ l, i.lastRun = some l → l ≤ t) →
    (∀ l, i.lastRun = some l → ∀ s ∈ acceptedStamps i cs, i.effSkip ≤ s - l) ∧
    List.Pairwise (fun a b => i.effSkip ≤ b - a) (acceptedStamps i cs) := by
  induction cs with
  | nil => intro i t _ _; simp [acceptedStamps]
  | cons c rest ih =>
    intro i t ⟨h1, h2, h3⟩ hle
    have hle' : ∀ l, i.lastRun = some l → l ≤ c.tStamp := fun l hl => by have := hle l hl; omega
    rcases i.invalidate_cases c.ncb c.tCheck c.tStamp with ⟨-, h⟩ | ⟨-, h⟩ | ⟨hel, h⟩
    · simp only [acceptedStamps, h]
      exact ih i c.tStamp h3 hle'
    · simp only [acceptedStamps, h]
      have := ih { i with skipInterval := i.effSkip } c.tStamp h3 hle'
      rwa [i.effSkip_effSkip] at this
    · simp only [acceptedStamps, h]
      have ⟨ihA, ihB⟩ := ih { lastRun := some c.tStamp, skipInterval := i.effSkip } c.tStamp h3 fun l hl => by cases hl; exact Int.le_refl _
      rw [i.effSkip_effSkip] at ihA ihB
      have hrest := ihA c.tStamp rfl
      refine ⟨fun l hl s hs => ?_, .cons hrest ihB⟩
      have := hel l hl
      have := hle' l hl
      rcases List.mem_cons.mp hs with rfl | hs'
      · omega
      · have := hrest s hs'
        omega

/-- **C17_accepted_when_elapsed** — the other half of "at most once per SkipInterval": the limiter never rejects
    spuriously. The first call, and every call whose check comes at least SkipInterval after the last accepted stamp,
    is accepted, runs every callback once in registration order and stamps `tStamp`. -/
theorem C17_accepted_when_elapsed (i : Invalidator) (ncb : Nat) (hn : ncb ≠ 0) (tc ts : Time)
    (hel : ∀ last, i.lastRun = some last → i.effSkip ≤ tc - last) :
    (i.invalidate ncb tc ts).2 = .ran (List.range ncb) ∧ (i.invalidate ncb tc ts).1.lastRun = some ts := by
  rcases i.invalidate_cases ncb tc ts with ⟨h0, -⟩ | ⟨⟨last, hl, hlt⟩, -⟩ | ⟨-, h⟩
  · exact absurd h0 hn
  · have := hel last hl; omega
  · rw [h]; exact ⟨rfl, rfl⟩

/-- A rejected call is always explained by an accepted one less than SkipInterval before it: there is a stamp `last`
    with `tCheck − last < SkipInterval`. (No rejection on a fresh invalidator, none after the interval.) -/
theorem C17_rejected_only_within_interval (i : Invalidator) (ncb : Nat) (tc ts : Time)
    (hrej : (i.invalidate ncb tc ts).2 = .already) :
    ∃ last, i.lastRun = some last ∧ tc - last < i.effSkip := by
  rcases i.invalidate_cases ncb tc ts with ⟨-, h⟩ | ⟨hex, -⟩ | ⟨-, h⟩
  · rw [h] at hrej; cases hrej
  · exact hex
  · rw [h] at hrej; cases hrej

example :
    let i : Invalidator := { skipInterval := 100 }
    (i.run [⟨2, 1000, 1001⟩, ⟨2, 1050, 1051⟩, ⟨2, 1101, 1102⟩]).2 = [.ran [0, 1], .already, .ran [0, 1]] := by decide

/-- exactly at the boundary (`tCheck − last = SkipInterval`) the call is accepted, one nanosecond earlier it is not -/
example :
    let i : Invalidator := { lastRun := some 1001, skipInterval := 100 }
    (i.invalidate 2 1101 1102).2 = .ran [0, 1] ∧ (i.invalidate 2 1100 1102).2 = .already := by decide

end Cache
