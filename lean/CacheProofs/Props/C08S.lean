import CacheProofs.Lemmas.Linz

/-
  C08 — the other direction of the checker: a "not linearizable" verdict is sound.

  `C08_verdict_sound` says a history the checker ACCEPTS is linearizable. The correspondence run raises a violation when the
  search comes back empty-handed, so the search must not miss a witness: `C08_search_complete` proves that whenever ANY
  real-time respecting order replays on the model, the bounded search returns a witness or reports that its node budget ran
  out (`inconclusive`, never an alarm) - it never answers "not found".
-/
namespace Cache.Linz

/-- `x` stands before `y` in the witness `w`. -/
def Before (w : List Nat) (x y : Nat) : Prop := ∃ ia ib : Nat, ia < ib ∧ w[ia]? = some x ∧ w[ib]? = some y

theorem not_before_head {i : Nat} {rest : List Nat} (hnd : (i :: rest).Nodup) (x : Nat) : ¬ Before (i :: rest) x i := by
  intro ⟨ia, ib, hlt, _, hb⟩
  cases ib with
  | zero => omega
  | succ ib => exact (List.nodup_cons.1 hnd).1 (List.mem_of_getElem? hb)

theorem before_tail {i x y : Nat} {rest : List Nat} (hx : x ≠ i) (h : Before (i :: rest) x y) : Before rest x y := by
  obtain ⟨ia, _ | ib, hlt, ha, hb⟩ := h
  · omega
  · cases ia with
    | zero => exact absurd (Option.some.inj ha).symm hx
    | succ ia => exact ⟨ia, ib, Nat.lt_of_succ_lt_succ hlt, ha, hb⟩

/-- `w` schedules `pending`: it lists the ids of the pending events once each, in an order compatible with real time. -/
structure Sched (pending : List Event) (w : List Nat) : Prop where
  nodup : w.Nodup
  mem : ∀ i, i ∈ w ↔ ∃ e ∈ pending, e.id = i
  rt : ∀ a ∈ pending, ∀ b ∈ pending, a.ret < b.inv → Before w a.id b.id

/-- Nothing pending precedes, in real time, the event scheduled first: the search tries it. -/
theorem Sched.head_minimal {pending : List Event} {i : Nat} {rest : List Nat} (h : Sched pending (i :: rest))
    {e : Event} (he : e ∈ pending) (hid : e.id = i) :
    e ∈ pending.filter fun e => pending.all fun p => p.id == e.id || !(p.ret < e.inv) := by
  refine List.mem_filter.2 ⟨he, List.all_eq_true.2 fun p hp => ?_⟩
  have : ¬ p.ret < e.inv := fun hlt => not_before_head h.nodup p.id (hid ▸ h.rt p hp e he hlt)
  simp [this]

theorem Sched.tail {pending : List Event} {i : Nat} {rest : List Nat} (h : Sched pending (i :: rest)) :
    Sched (pending.filter (·.id != i)) rest where
  nodup := (List.nodup_cons.1 h.nodup).2
  mem j := by
    simp only [List.mem_filter, bne_iff_ne]
    constructor
    · intro hj
      obtain ⟨x, hx, rfl⟩ := (h.mem j).1 (List.mem_cons_of_mem _ hj)
      exact ⟨x, ⟨hx, fun hxi => (List.nodup_cons.1 h.nodup).1 (hxi ▸ hj)⟩, rfl⟩
    · rintro ⟨x, ⟨hx, hne⟩, rfl⟩
      exact (List.mem_cons.1 ((h.mem _).2 ⟨x, hx, rfl⟩)).resolve_left hne
  rt a ha b hb hlt := by
    simp only [List.mem_filter, bne_iff_ne] at ha hb
    exact before_tail ha.2 (h.rt a ha.1 b hb.1 hlt)

/-- **C08_search_complete** — if some order of the pending events respects real time and replays on the model, the bounded
    search does not answer "not found" (it finds a witness, or runs out of budget). -/
theorem C08_search_complete (evs : List Event) (hnd : (evs.map (·.id)).Nodup) :
    ∀ (fuel : Nat) (pending : List Event) (w : List Nat) (s : Store) (budget : Nat),
      pending.length < fuel →
      (∀ e ∈ pending, e ∈ evs) →
      w.Nodup → (∀ i, i ∈ w ↔ ∃ e ∈ pending, e.id = i) →
      (∀ a ∈ pending, ∀ b ∈ pending, a.ret < b.inv → Before w a.id b.id) →
      replay evs s w = true →
      (searchB fuel budget s pending).1 ≠ .notFound := by
  intro fuel
  induction fuel with
  | zero => intro pending w s budget hlen; omega
  | succ fuel ih =>
    intro pending w s budget hlen hsub hwnd hwmem hrt hrep
    have hs : Sched pending w := ⟨hwnd, hwmem, hrt⟩
    cases pending with
    | nil => simp [searchB]
    | cons p0 prest =>
      cases w with
      | nil => exact absurd ((hwmem p0.id).2 ⟨p0, List.mem_cons_self, rfl⟩) List.not_mem_nil
      | cons i rest =>
        obtain ⟨e, hep, rfl⟩ := (hwmem i).1 List.mem_cons_self
        rw [replay_cons hnd (hsub e hep), Bool.and_eq_true] at hrep
        unfold searchB
        refine tryEach_ne_notFound (fun b => ?_) (hs.head_minimal hep rfl)
        -- the alternative `e` of the search: its result matches, and the rest is searched with `rest` as a schedule
        have hrec := ih _ rest (apply s e.op).1 b
          (Nat.lt_of_lt_of_le (List.length_filter_lt_length_iff_exists.2 ⟨e, hep, by simp⟩) (Nat.le_of_lt_succ hlen))
          (fun x hx => hsub x (List.mem_filter.1 hx).1) hs.tail.nodup hs.tail.mem hs.tail.rt hrep.2
        simp only [hrep.1, if_true]
        split
        · simp
        · exact hrec

/-- **C08_notlin_verdict_sound** — the driver reports "not linearizable" only when the search answers "not found"; for a
    linearizable history with distinct event ids that cannot happen. -/
theorem C08_notlin_verdict_sound (init : Store) (evs : List Event) (hnd : (evs.map (·.id)).Nodup)
    (w : List Nat) (hw : checkWitness init evs w = true) (budget : Nat) :
    (searchB (evs.length + 1) budget init evs).1 ≠ .notFound := by
  obtain ⟨hlen, hwnd, hmem, hrt, hrep⟩ := checkWitness_iff.1 hw
  refine C08_search_complete evs hnd _ evs w init budget (Nat.lt_succ_self _) (fun _ h => h) hwnd
    (fun i => ⟨fun hi => ?_, fun ⟨e, he, h⟩ => h ▸ hmem e he⟩) (fun a ha b hb hlt => ?_) hrep
  · -- `w` has as many members as there are ids, all ids are in it, so it has no others
    simpa using subset_of_nodup_of_length_le hnd (fun _ => List.forall_mem_map.2 hmem _) (by simp [hlen]) hi
  · obtain ⟨ia, ib, hia, hib, hlt⟩ := hrt a ha b hb hlt
    exact ⟨ia, ib, hlt, (idxOf?_eq_some_iff_of_nodup hwnd).1 hia, (idxOf?_eq_some_iff_of_nodup hwnd).1 hib⟩

end Cache.Linz
