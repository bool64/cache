import CacheProofs.Lemmas.Index

/-
  C15 — label invalidation is complete, precise and loses nothing on failure.

  The theorems quantify over every index content (any incidence structure, repeated labelling), every label argument list
  (repeats and unknown labels included), every visiting order of the cache names, every number of caches per name and every
  fault oracle (a deleter failure at any delete position). Deleters answer truthfully apart from injected failures.
  "Never panics" is totality of the model; that the real put-back loop does not panic is the correspondence run's job.
-/
namespace Cache

/-- `k` is in none of the caches `ds`. -/
def Gone (s : IdxState) (ds : List Did) (k : Key) : Prop := ∀ d ∈ ds, k ∉ s.cache d

theorem Gone.mono {s s' : IdxState} {ds : List Did} {k : Key} (h : Gone s ds k) (hs : Shrinks s s') : Gone s' ds k :=
  fun d hd hm => h d hd (hs.sub d k hm)

theorem deleteEverywhere_spec {R : Did → Key → Prop} {faults : Nat → Bool} {s s' : IdxState} {ds : List Did} {k : Key}
    {cnt cnt' : Nat} {ok : Bool} (h : deleteEverywhere faults s ds k cnt = (s', cnt', ok)) (hR : ∀ d ∈ ds, R d k) :
    Deletes R s s' ∧ (ok = true → Gone s' ds k) := by
  fun_induction deleteEverywhere faults s ds k cnt with
  | case1 s k cnt => cases h; exact ⟨.refl _ _, fun _ _ h => nomatch h⟩
  | case2 s d ds k cnt s1 hc =>  -- the deleter fails
    cases h; exact ⟨(deleteCall_spec hc (hR d List.mem_cons_self)).1, nofun⟩
  | case3 s d ds k cnt s1 hc ih | case4 s d ds k cnt s1 hc ih =>  -- it deletes, or has no such key
    have ⟨hd, hds⟩ := List.forall_mem_cons.1 hR
    have hc := deleteCall_spec hc hd
    have ih := ih h hds
    exact ⟨hc.1.trans ih.1, fun hok => List.forall_mem_cons.2 ⟨fun hm => hc.2 nofun (ih.1.sub _ _ hm), ih.2 hok⟩⟩

theorem processKeys_spec {R : Did → Key → Prop} {faults : Nat → Bool} {ds : List Did} {s s' : IdxState}
    {ks deleted deleted' : List Key} {cnt cnt' : Nat} {ok : Bool}
    (h : processKeys faults ds s ks deleted cnt = (s', deleted', cnt', ok))
    (hg : ∀ k ∈ deleted, Gone s ds k) (hR : ∀ k ∈ ks, ∀ d ∈ ds, R d k) :
    Deletes R s s' ∧ (∀ k ∈ deleted', Gone s' ds k) ∧ (∀ k ∈ deleted, k ∈ deleted') ∧
    (ok = true → ∀ k ∈ ks, k ∈ deleted') := by
  fun_induction processKeys faults ds s ks deleted cnt with
  | case1 s deleted cnt => cases h; exact ⟨.refl _ _, hg, fun _ h => h, fun _ _ h => nomatch h⟩
  | case2 s k ks deleted cnt hd ih =>  -- `k` is known deleted: skipped
    have ⟨h1, h2, h3, h4⟩ := ih h hg (List.forall_mem_cons.1 hR).2
    exact ⟨h1, h2, h3, fun hok => List.forall_mem_cons.2 ⟨h3 k (by simpa using hd), h4 hok⟩⟩
  | case3 s k ks deleted cnt hd s1 cnt1 he ih =>  -- `k` deleted everywhere
    have ⟨hk, hks⟩ := List.forall_mem_cons.1 hR
    have he := deleteEverywhere_spec he hk
    have ⟨h1, h2, h3, h4⟩ := ih h (List.forall_mem_cons.2 ⟨he.2 rfl, fun k' hk' => (hg k' hk').mono he.1.toShrinks⟩) hks
    exact ⟨he.1.trans h1, h2,
      fun k' hk' => h3 k' (List.mem_cons_of_mem _ hk'), fun hok => List.forall_mem_cons.2 ⟨h3 k List.mem_cons_self, h4 hok⟩⟩
  | case4 s k ks deleted cnt hd s1 cnt1 he =>  -- a deleter failed on `k`: the loop stops
    cases h
    have he := deleteEverywhere_spec he (hR k List.mem_cons_self)
    exact ⟨he.1, fun k' hk' => (hg k' hk').mono he.1.toShrinks, fun _ h => h, nofun⟩

/-- The last clause is the one invariant behind completeness and "nothing lost": every key that was cut is known deleted
    (hence gone) or is still in what remains of `cut`, and after a successful run the latter is left only to labels that were
    not asked for. -/
theorem processLabels_spec {R : Did → Key → Prop} {faults : Nat → Bool} {ds : List Did} {s s' : IdxState} {ls : List Label}
    {cut cut' : LabeledKeys} {deleted deleted' : List Key} {cnt cnt' : Nat} {ok : Bool}
    (h : processLabels faults ds s ls cut deleted cnt = (s', cut', deleted', cnt', ok)) (hg : ∀ k ∈ deleted, Gone s ds k)
    (hR : ∀ l ∈ ls, ∀ k ∈ lkGet cut l, ∀ d ∈ ds, R d k) :
    Deletes R s s' ∧ (∀ k ∈ deleted', Gone s' ds k) ∧
    (∀ k ∈ deleted, k ∈ deleted') ∧
    (∀ l, ∀ k ∈ lkGet cut l, k ∈ deleted' ∨ k ∈ lkGet cut' l ∧ (ok = true → l ∉ ls)) := by
  fun_induction processLabels faults ds s ls cut deleted cnt with
  | case1 s cut deleted cnt =>
    cases h; exact ⟨.refl _ _, hg, fun _ h => h, fun _ _ hk => .inr ⟨hk, fun _ => List.not_mem_nil⟩⟩
  | case2 s l ls cut deleted cnt s1 deleted1 cnt1 hp ih =>  -- the label's keys are done: it leaves `cut`
    have ⟨hl, hls⟩ := List.forall_mem_cons.1 hR
    have ⟨p1, p2, p3, p4⟩ := processKeys_spec hp hg hl
    have ⟨i1, i2, i3, i4⟩ := ih h p2 fun l' hl' k hk => hls l' hl' k (by simp at hk; exact hk.2)
    refine ⟨p1.trans i1, i2, fun k hk => i3 k (p3 k hk), fun l' k hk => ?_⟩
    by_cases hl : l' = l
    · exact .inl (i3 k (p4 rfl k (hl ▸ hk)))
    · exact (i4 l' k (by simpa [hl] using hk)).imp_right fun ⟨a, b⟩ => ⟨a, fun hok => by simp [hl, b hok]⟩
  | case3 s l ls cut deleted cnt s1 deleted1 cnt1 hp =>  -- failure inside the label: `cut` keeps it
    cases h
    have hp := processKeys_spec hp hg (hR l List.mem_cons_self)
    exact ⟨hp.1, hp.2.1, hp.2.2.1, fun _ _ hk => .inr ⟨hk, nofun⟩⟩

/-- The fold of `cutKeys`, from any accumulator. -/
theorem cutKeys_fold (labels : List Label) (acc rest : LabeledKeys) (l : Label) :
    lkGet (labels.foldl (fun (acc : LabeledKeys × LabeledKeys) l =>
      if lkHas acc.1 l then acc else (acc.1 ++ [(l, lkGet acc.2 l)], lkErase acc.2 l)) (acc, rest)).1 l =
    if lkHas acc l ∨ l ∉ labels then lkGet acc l else lkGet rest l := by
  induction labels generalizing acc rest with
  | nil => simp
  | cons l0 ls ih =>
    rw [List.foldl_cons]
    split
    · rename_i h0
      rw [ih]
      by_cases hl : l = l0
      · subst hl; simp [h0]
      · simp [hl]
    · rw [ih]
      by_cases ha : lkHas acc l = true
      · simp [ha]
      · by_cases hl : l = l0
        · subst hl; simp [ha]
        · simp [ha, hl, Ne.symm hl, lkGet_of_not_lkHas]

theorem lkGet_cutKeys (lk : LabeledKeys) (labels : List Label) (l : Label) :
    lkGet (cutKeys lk labels).1 l = if l ∈ labels then lkGet lk l else [] := by
  unfold cutKeys; rw [cutKeys_fold]; simp

theorem putBack_mem (cut : LabeledKeys) (deleted : List Key) (lk : LabeledKeys) (l : Label) (k : Key)
    (h : k ∈ lkGet lk l ∨ (k ∈ lkGet cut l ∧ k ∉ deleted)) : k ∈ lkGet (putBack lk cut deleted) l := by
  unfold putBack
  induction cut generalizing lk with
  | nil => simpa using h
  | cons p rest ih =>
    apply ih
    rw [lkGet_lkSet]
    by_cases hp : p.1 = l
    · subst hp; simp at h ⊢; exact .inl h
    · simpa [hp, Ne.symm hp] using h

theorem putBack_state (s1 : IdxState) (n : Name) (cut1 : LabeledKeys) (deleted : List Key) :
    let s2 := if cut1.isEmpty then s1 else s1.setLabeled n (putBack (s1.labeled n) cut1 deleted)
    (∀ d, s2.cache d = s1.cache d) ∧ (∀ n', s2.deletersOf n' = s1.deletersOf n') ∧
    (∀ n', n' ≠ n → s2.labeled n' = s1.labeled n') ∧
    (∀ l, ∀ k ∈ lkGet cut1 l, k ∉ deleted → k ∈ lkGet (s2.labeled n) l) := by
  cases cut1 with
  | nil => simp
  | cons p c => simp +contextual [putBack_mem]

/-- **C15 for one cache name** — precise, complete on success, nothing lost on failure. -/
theorem C15_invalidateName (s : IdxState) (faults : Nat → Bool) (n : Name) (labels : List Label) :
    let r := s.invalidateName faults n labels
    -- caches only shrink, and only by keys labelled (under this name) with one of the labels, in this name's caches
    (∀ d k, k ∈ r.1.cache d → k ∈ s.cache d) ∧
    (∀ d k, k ∈ s.cache d → k ∉ r.1.cache d → d ∈ s.deletersOf n ∧ ∃ l ∈ labels, k ∈ lkGet (s.labeled n) l) ∧
    -- other names' index entries are untouched; the deleter registry is untouched
    (∀ n', n' ≠ n → r.1.labeled n' = s.labeled n') ∧
    (∀ n', r.1.deletersOf n' = s.deletersOf n') ∧
    -- success: every labelled key is gone from every cache of the name
    (r.2.2 = true → ∀ l ∈ labels, ∀ k ∈ lkGet (s.labeled n) l, ∀ d ∈ s.deletersOf n, k ∉ r.1.cache d) ∧
    -- failure: every labelled key is gone from every cache of the name, or is still indexed under its label
    (r.2.2 = false → ∀ l ∈ labels, ∀ k ∈ lkGet (s.labeled n) l,
        (∀ d ∈ s.deletersOf n, k ∉ r.1.cache d) ∨ k ∈ lkGet (r.1.labeled n) l) := by
  rcases hr : processLabels faults (s.deletersOf n) (s.setLabeled n (cutKeys (s.labeled n) labels).2) labels
    (cutKeys (s.labeled n) labels).1 [] 0 with ⟨s1, cut1, deleted, cnt, ok⟩
  obtain ⟨hdel, hgone, -, htrack⟩ := processLabels_spec hr nofun
    (R := fun d k => d ∈ s.deletersOf n ∧ ∃ l ∈ labels, k ∈ lkGet (s.labeled n) l)
    fun l hl k hk d hd => ⟨hd, l, hl, by simpa [lkGet_cutKeys, hl] using hk⟩
  simp only [IdxState.invalidateName, hr]
  simp only [lkGet_cutKeys, List.mem_ite_nil_right] at htrack
  obtain ⟨hc, hd, hl, hpb⟩ := putBack_state s1 n cut1 deleted
  simp only [hc, hd]
  refine ⟨hdel.sub, hdel.only, fun n' hn => ?_, hdel.deletersOf, fun hok l hl' k hk => ?_, fun _ l hl' k hk => ?_⟩
  · rw [hl n' hn, hdel.labeled, labeled_setLabeled, if_neg hn]
  · exact hgone k ((htrack l k ⟨hl', hk⟩).resolve_right fun h => h.2 hok hl')
  · by_cases hdk : k ∈ deleted
    · exact .inl (hgone k hdk)
    · exact .inr (hpb l k ((htrack l k ⟨hl', hk⟩).resolve_left hdk).1 hdk)

/-- **C15_invalidate** — `InvalidateByLabels` over any visiting order of distinct cache names:
    caches only shrink; whatever disappears was labelled with one of the labels under a name owning that cache (precision);
    on success every labelled key is gone from all caches of its name (completeness); on failure every labelled key is gone
    or still indexed under its label, so that a later fault-free call removes it (nothing is lost). -/
theorem C15_invalidate (faults : Nat → Bool) (labels : List Label) (order : List Name) :
    ∀ (s : IdxState) (cnt : Nat), order.Nodup →
    let r := IdxState.invalidate faults s order labels cnt
    (∀ d k, k ∈ r.1.cache d → k ∈ s.cache d) ∧
    (∀ d k, k ∈ s.cache d → k ∉ r.1.cache d → ∃ n ∈ order, d ∈ s.deletersOf n ∧ ∃ l ∈ labels, k ∈ lkGet (s.labeled n) l) ∧
    (∀ n', n' ∉ order → r.1.labeled n' = s.labeled n') ∧
    (∀ n', r.1.deletersOf n' = s.deletersOf n') ∧
    (r.2.2 = true → ∀ n ∈ order, ∀ l ∈ labels, ∀ k ∈ lkGet (s.labeled n) l, ∀ d ∈ s.deletersOf n, k ∉ r.1.cache d) ∧
    (∀ n ∈ order, ∀ l ∈ labels, ∀ k ∈ lkGet (s.labeled n) l,
        (∀ d ∈ s.deletersOf n, k ∉ r.1.cache d) ∨ k ∈ lkGet (r.1.labeled n) l) := by
  induction order with
  | nil => exact fun s _ _ => ⟨fun _ _ h => h, fun _ _ h h' => absurd h h', fun _ _ => rfl, fun _ => rfl, nofun, nofun⟩
  | cons n ns ih =>
    intro s cnt hnd
    obtain ⟨hnotin, hnd'⟩ := List.nodup_cons.mp hnd
    obtain ⟨hsub, hprec, hlab, hdel, hok, hkept⟩ := C15_invalidateName s faults n labels
    have hlab' : ∀ n' ∈ ns, _ = s.labeled n' := fun n' hn' => hlab n' fun e => hnotin (e ▸ hn')
    rw [IdxState.invalidate]
    generalize s.invalidateName faults n labels = r1 at *
    obtain ⟨s1, c, _ | _⟩ := r1
    · -- `n` failed: the run stops at `s1`
      exact ⟨hsub, fun d k h1 h2 => ⟨n, List.mem_cons_self, hprec d k h1 h2⟩,
        fun n' hn' => hlab n' (List.ne_of_not_mem_cons hn'), hdel, nofun,
        List.forall_mem_cons.2 ⟨hkept rfl, fun n' hn' l _ k hk => .inr (by rwa [hlab' n' hn'])⟩⟩
    · -- `n` succeeded: the run goes on from `s1`, which has the deleters of `s` and, for the names in `ns`, its labels
      obtain ⟨isub, iprec, ilab, idel, iok, ikept⟩ := ih s1 (cnt + c) hnd'
      simp +contextual only [hdel, hlab'] at idel iok ikept
      have hgone : ∀ l ∈ labels, ∀ k ∈ lkGet (s.labeled n) l, ∀ d ∈ s.deletersOf n, k ∉ _ :=
        fun l hl k hk d hd hm => hok rfl l hl k hk d hd (isub d k hm)
      refine ⟨fun d k h => hsub d k (isub d k h), fun d k h1 h2 => ?_,
        fun n' hn' => (ilab n' (List.not_mem_of_not_mem_cons hn')).trans (hlab n' (List.ne_of_not_mem_cons hn')),
        idel, fun hokb => List.forall_mem_cons.2 ⟨hgone, iok hokb⟩,
        List.forall_mem_cons.2 ⟨fun l hl k hk => .inl (hgone l hl k hk), ikept⟩⟩
      by_cases hm : k ∈ s1.cache d
      · obtain ⟨n', hn', hd, l, hl, hk⟩ := iprec d k hm h2
        exact ⟨n', List.mem_cons_of_mem _ hn', hdel n' ▸ hd, l, hl, hlab' n' hn' ▸ hk⟩
      · exact ⟨n, List.mem_cons_self, hprec d k h1 hm⟩

/-- **C15_retry_completes** — after a failed call, a fault-free call with the same labels leaves every key that was labelled
    at the time of the FIRST call absent from all caches of its name. -/
theorem C15_retry_completes (faults : Nat → Bool) (labels : List Label) (order order2 : List Name)
    (s : IdxState) (hnd : order.Nodup) (hnd2 : order2.Nodup) (hcover : ∀ n ∈ order, n ∈ order2)
    (hnofault : (IdxState.invalidate (fun _ => false) (IdxState.invalidate faults s order labels 0).1 order2 labels 0).2.2 = true) :
    ∀ n ∈ order, ∀ l ∈ labels, ∀ k ∈ lkGet (s.labeled n) l, ∀ d ∈ s.deletersOf n,
      k ∉ (IdxState.invalidate (fun _ => false) (IdxState.invalidate faults s order labels 0).1 order2 labels 0).1.cache d := by
  intro n hn l hl k hk d hd
  obtain ⟨-, -, -, hdel, -, hkept⟩ := C15_invalidate faults labels order s 0 hnd
  obtain ⟨hsub, -, -, -, hgone, -⟩ := C15_invalidate (fun _ => false) labels order2 _ 0 hnd2
  rcases hkept n hn l hl k hk with h | h
  · exact fun hm => h d hd (hsub d k hm)
  · exact hgone hnofault n (hcover n hn) l hl k h d (hdel n ▸ hd)

-- labels sharing keys, a failure at the last delete, and the retry
example :
    let s : IdxState := ((((({} : IdxState).addCache 1 10).setCache 10 [1, 2, 3, 9]).addLabels 1 1 [1, 2]).addLabels 1 2 [1, 2]).addLabels 1 3 [2]
    let r := s.invalidateName (fun i => i == 2) 1 [1, 2]
    r.2.2 = false ∧ r.1.cache 10 = [3, 9] ∧ lkGet (r.1.labeled 1) 2 = [3] ∧
    ((r.1.invalidateName (fun _ => false) 1 [1, 2]).1.cache 10 = [9]) := by decide

end Cache
