import CacheProofs.Lemmas.Failover

/-
  C01 — Failover never runs two builds for the same key at the same time.

  The theorem quantifies over every configuration (all flag combinations, both API variants), ANY number of threads and
  keys, every schedule at the granularity of single shared actions, every backend answer (nothing / stale / too stale /
  error, write failures) and every builder outcome: all of these are free labels of the machine.
-/
namespace Cache

/-- **C01_no_overlapping_builds** — in every reachable state, two distinct threads inside the builder (between the builder
    call-out and its answer) work on different keys. -/
theorem C01_no_overlapping_builds (c : FCfg) (s : FState) (h : Reachable c s) (t u : Nat) (htu : t ≠ u)
    (ht : (s.th t).pc = .building) (hu : (s.th u).pc = .building) : (s.th t).key ≠ (s.th u).key := by
  have hi := reachable_inv h
  exact fun hk => htu (hi.uniq t u (hi.owning (by simp [ht, Pc.ownerOnly])) (hi.owning (by simp [hu, Pc.ownerOnly])) hk)

/-- The same for the whole owner region: from winning the election to the release, a key has at most one owner — so
    refresh-writes, failure-cache writes and final stores of one key never overlap either. -/
theorem C01_single_owner (c : FCfg) (s : FState) (h : Reachable c s) (t u : Nat)
    (ht : (s.th t).owning) (hu : (s.th u).owning) (hk : (s.th t).key = (s.th u).key) : t = u :=
  (reachable_inv h).uniq t u ht hu hk

/-- A thread is in the builder only while it holds the (open) key lock registered for its key. -/
theorem C01_build_under_lock (c : FCfg) (s : FState) (h : Reachable c s) (t : Nat) (ht : (s.th t).pc = .building) :
    s.keyLocks (s.th t).key = some (s.th t).lid ∧ (s.kl (s.th t).lid).closed = false := by
  have hi := reachable_inv h
  exact hi.own t (hi.owning (by simp [ht, Pc.ownerOnly]))

-- Non-vacuity: two threads on one key, one building while the other waits.
def demoCfg01 : FCfg := { variant := .failover, syncUpdate := false, syncRead := false, failHard := false, maxStaleness := 0,
                          failedUpdateTTL := 20000000000, updateTTL := 60000000000 }
example : ∃ s, run demoCfg01 FState.init
    [.begin 0 7 false none, .begin 1 7 false none, .readAns 0 .miss, .readAns 1 .miss, .elect 0, .elect 1,
     .local 0, .local 1, .errsRead 0 100, .local 0] = some s ∧ (s.th 0).pc = .building ∧ (s.th 1).pc = .waiting := by
  refine ⟨_, rfl, ?_, ?_⟩ <;> decide

end Cache
