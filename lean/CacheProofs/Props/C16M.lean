import CacheProofs.Lemmas.Lockset
import CacheModel.Footprint

/-
  C16 — the general half: why a pair the footprint table calls protected is ordered by happens-before in EVERY execution.
  The theorems quantify over all legal traces (any number of goroutines, locks, locations, any length, any interleaving)
  of the trace semantics in CacheModel/MemModel.lean; nothing here is decided by enumeration.
  What stays trusted: that the semantics matches the Go memory model document, and that the real executions conform to the
  table (each access really is made under the guard its row states) — the latter is what the race-detector engine samples.
-/
namespace Cache.MM

/-- **C16_lockset** — a location all of whose accesses are made under one lock, writes exclusively, has no data race in any
    legal execution. -/
theorem C16_lockset (tr : List Ev) (hl : Legal tr) (l k : Nat) (hd : LockDisciplined tr l k) :
    ∀ i j, ¬ Race tr l i j := by
  intro i j ⟨hij, t, t', w, w', a, a', hei, hej, hne, hw, _, hnhb⟩
  obtain ⟨mi, hhi, hwi⟩ := hd i t w a hei
  obtain ⟨mj, hhj, hwj⟩ := hd j t' w' a' hej
  exact hnhb (lock_pair_ordered hl hij hei hej hne hhi hhj (hw.imp hwi hwj))

/-- **C16_atomic_discipline** — a location only ever accessed with sync/atomic has no data race (by definition of a race). -/
theorem C16_atomic_discipline (tr : List Ev) (l : Nat) (hd : AtomicDisciplined tr l) : ∀ i j, ¬ Race tr l i j := by
  intro i j ⟨_, t, t', w, w', a, a', hei, hej, _, _, hna, _⟩
  exact hna ⟨hd i t w a hei, hd j t' w' a' hej⟩

/-- **C16_close_receive_ordered** — the lock record of Failover: what the owner writes before `close(ch)` is ordered before
    what a waiter reads after `<-ch`. -/
theorem C16_close_receive_ordered (tr : List Ev) (i r a j t t' c : Nat) (ei ej : Ev)
    (hir : i < r) (hra : r < a) (haj : a < j)
    (hei : tr[i]? = some ei) (hti : ei.tid = t) (hr : tr[r]? = some (Ev.close t c))
    (ha : tr[a]? = some (Ev.recv t' c)) (hej : tr[j]? = some ej) (htj : ej.tid = t') : HB tr i j :=
  .trans (.po hir hei hr hti) (.trans (.chan hra hr ha) (.po haj ha hej htj.symm))

/-- **C16_publication_ordered** — init-before-publish: what a goroutine writes into a fresh entry before it releases the
    (exclusively held) lock under which the entry is stored is ordered before every access by a goroutine that acquired
    that lock later (and so could find the entry). -/
theorem C16_publication_ordered (tr : List Ev) (i r a j t t' k : Nat) (m' : Mode) (ei ej : Ev)
    (hir : i < r) (hra : r < a) (haj : a < j)
    (hei : tr[i]? = some ei) (hti : ei.tid = t) (hr : tr[r]? = some (Ev.rel t k .ex))
    (ha : tr[a]? = some (Ev.acq t' k m')) (hej : tr[j]? = some ej) (htj : ej.tid = t') : HB tr i j :=
  .trans (.po hir hei hr hti) (.trans (.lock hra hr ha (.inl rfl)) (.po haj ha hej htj.symm))

def lockId : FP.Lock → Nat
  | .shard => 0 | .fLock => 1 | .idxMu => 2 | .invMu => 3

/-- The access at position p by goroutine t really is made under the guard its table row states (lock rows only; the lock
    instance is the one the location belongs to: one shard, one Failover, one index). -/
def underGuard (tr : List Ev) (p t : Nat) : FP.Guard → Prop
  | .lock l true => heldAt tr p t (lockId l) = some .ex
  | .lock l false => ∃ m, heldAt tr p t (lockId l) = some m
  | _ => True

theorem underGuard_lock {tr : List Ev} {p t : Nat} {l : FP.Lock} {x : Bool} (h : underGuard tr p t (.lock l x)) :
    ∃ m, heldAt tr p t (lockId l) = some m ∧ (x = true → m = .ex) := by
  cases x with
  | true => exact ⟨.ex, h, fun _ => rfl⟩
  | false => exact h.imp fun _ hm => ⟨hm, Bool.noConfusion⟩

/-- **C16_table_lock_clause_sound** — whenever the table's `protectedPair` says "protected" on the strength of its lock clause
    (both rows guarded by the same lock, one of them exclusively), any two accesses of different goroutines that conform to
    those rows are ordered by happens-before, in every legal execution. -/
theorem C16_table_lock_clause_sound (ra rb : FP.Access) (lk : FP.Lock) (x1 x2 : Bool)
    (hga : ra.guard = .lock lk x1) (hgb : rb.guard = .lock lk x2) (hp : FP.protectedPair ra rb = true)
    (tr : List Ev) (hl : Legal tr) (i j t t' l : Nat) (w w' a a' : Bool) (hij : i < j)
    (hei : tr[i]? = some (Ev.acc t l w a)) (hej : tr[j]? = some (Ev.acc t' l w' a')) (hne : t ≠ t')
    (hci : underGuard tr i t ra.guard) (hcj : underGuard tr j t' rb.guard) : HB tr i j := by
  obtain ⟨mi, hmi, hxi⟩ := underGuard_lock (hga ▸ hci)
  obtain ⟨mj, hmj, hxj⟩ := underGuard_lock (hgb ▸ hcj)
  have hx : x1 = true ∨ x2 = true := by simpa [FP.protectedPair, hga, hgb] using hp
  exact lock_pair_ordered hl hij hei hej hne hmi hmj (hx.imp hxi hxj)

/-- Two goroutines writing one location under an exclusive lock: legal, disciplined. -/
def goodTrace : List Ev :=
  [.acq 0 7 .ex, .acc 0 1 true false, .rel 0 7 .ex, .acq 1 7 .sh, .acc 1 1 false false, .rel 1 7 .sh]

example : Legal goodTrace := by
  intro n hn
  have : n = 0 ∨ n = 1 ∨ n = 2 ∨ n = 3 ∨ n = 4 ∨ n = 5 := by simp [goodTrace] at hn; omega
  rcases this with h | h | h | h | h | h <;> subst h <;>
    simp [goodTrace, heldAt, heldAfter, stepH, legalEv, Held.set]

example : HB goodTrace 1 4 :=
  C16_publication_ordered goodTrace 1 2 3 4 0 1 7 .sh _ _ (by decide) (by decide) (by decide) rfl rfl rfl rfl rfl rfl

/-- The shape of known finding F9a: `ExpireAll` (goroutine 0) rewrites `E` under the shard lock while a reader (goroutine 1)
    looked at it with no lock held. The semantics calls it a race. -/
def f9aTrace : List Ev :=
  [.acc 1 1 false false, .acq 0 7 .ex, .acc 0 1 true false, .rel 0 7 .ex]

theorem HB.source {tr : List Ev} {i j : Nat} (h : HB tr i j) :
    ∃ e, tr[i]? = some e ∧ ((∃ e' ∈ tr.drop (i + 1), e.tid = e'.tid) ∨ (∃ t k m, e = .rel t k m) ∨
      (∃ t l w, e = .acc t l w true) ∨ ∃ t c, e = .close t c) := by
  induction h with
  | @po i j e e' h1 h2 h3 h4 =>
    refine ⟨e, h2, .inl ⟨e', List.mem_of_getElem? (i := j - (i + 1)) ?_, h4⟩⟩
    rw [List.getElem?_drop, ← h3]; congr 1; omega
  | lock _ h2 _ _ => exact ⟨_, h2, .inr (.inl ⟨_, _, _, rfl⟩)⟩
  | atomic _ h2 _ => exact ⟨_, h2, .inr (.inr (.inl ⟨_, _, _, rfl⟩))⟩
  | chan _ h2 _ => exact ⟨_, h2, .inr (.inr (.inr ⟨_, _, rfl⟩))⟩
  | trans _ _ ih _ => exact ih

/-- **C16_semantics_sees_F9a** — the trace semantics is not vacuous: it does report the known in-place-expiry race. -/
theorem C16_semantics_sees_F9a : Race f9aTrace 1 0 2 := by
  refine ⟨by decide, 1, 0, false, true, false, false, rfl, rfl, by decide, .inr rfl, by simp, fun h => ?_⟩
  -- the reader's access is its goroutine's only event and is no release, atomic access or close: nothing is ordered after it
  simpa [f9aTrace, Ev.tid] using h.source

end Cache.MM
