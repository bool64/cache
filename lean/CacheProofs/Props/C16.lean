import CacheModel.FootprintTable

/-
  C16 — data-race freedom of the public API (PARTIAL by nature: the Go memory model, sync, sync/atomic and sync.Map are
  axioms of the footprint semantics, and the implementation side is the race detector, which only sees executions that happen).

  The footprint table lists, for every public operation and background activity, each access to shared memory with its
  guard. Two accesses race iff they conflict (same location of the same cache family, one a write) and are not ordered by
  a common lock with one side exclusive, both atomic, both inside sync.Map, init-before-publish, or the close/receive order of
  a lock record. The theorems decide the WHOLE table (kernel `decide`, no native code):
  every unprotected pair belongs to one of the two known findings, and every other location is disciplined.
  The general theorem "discipline ⇒ no two conflicting accesses unordered by happens-before, for every program and schedule"
  (the classical lockset argument) is `C16_lockset` in Props/C16M.lean, over the trace semantics of CacheModel/MemModel.lean.
-/
namespace Cache.FP

/-- The guard relation is symmetric: protection does not depend on which access comes first in the table. -/
theorem C16_protected_symmetric (a b : Access) (h : conflicting a b = true) : protectedPair a b = protectedPair b a := by
  obtain ⟨_, _, _, _, ga, _⟩ := a
  obtain ⟨_, _, _, _, gb, _⟩ := b
  cases ga <;> cases gb <;> try rfl
  simp [protectedPair, Bool.or_comm, Bool.beq_comm]

/-- Is the pair one of the two known findings? (a) `ExpireAll` rewrites `entry.E` in place while something reads it without
    the lock; (b) `PrepareRead` (inlined into `Read`) updates `entry.C` atomically under LRU/LFU while Walk / Dump / the entry's
    value-receiver accessors copy the whole entry struct with plain reads. -/
def knownFinding (p : Access × Access) : Bool :=
  (p.1.loc == .entryE && ((p.1.write && p.1.guard != .initOnly) || (p.2.write && p.2.guard != .initOnly))) ||
  (p.1.loc == .entryC && (p.1.lruOnly || p.2.lruOnly))

/-- The only writes to `entry.E` after publication are the in-place writes of the three `ExpireAll` implementations. -/
theorem C16_only_expireAll_rewrites_expiry :
    (table.filter (fun a => a.loc == .entryE && a.write && a.guard != .initOnly)).map (·.fn) =
      ["(*shardedMap).ExpireAll", "(*shardedMapOf).ExpireAll", "(*syncMap).ExpireAll.func1"] := by decide +kernel

theorem racyPairs_filter (q : Access → Bool) (t : List Access) :
    racyPairs (t.filter q) = (racyPairs t).filter (fun p => q p.1 && q p.2) := by
  induction t with
  | nil => rfl
  | cons a rest ih =>
    cases hq : q a <;> cases hr : racy a a <;>
      simp [racyPairs, hq, hr, ih, List.filter_map, List.filter_filter, Function.comp_def, Bool.and_comm]

/-- The rows that survive the repairs sketched in DESIGN §7, F9 (the filter of `C16_race_free_after_repair`). -/
def repaired (a : Access) : Bool :=
  !(a.loc == .entryE && a.write && a.guard != .initOnly) && !(a.loc == .entryC && !a.write && a.guard == .none)

theorem racy_of_mem_racyPairs {t : List Access} {p : Access × Access} (h : p ∈ racyPairs t) : racy p.1 p.2 = true := by
  induction t with
  | nil => cases h
  | cons a rest ih =>
    simp only [racyPairs, List.mem_append, List.mem_map, List.mem_filter] at h
    rcases h with (h | ⟨b, ⟨_, hb⟩, rfl⟩) | h
    · simp_all
    · exact hb
    · exact ih h

/-- A racy pair shares its location, so a verdict on the racy pairs can be taken location by location: kernel evaluation of
    `racyPairs` costs one `racy` test per pair of rows, and the buckets are small. -/
theorem racyPairs_all_of_buckets {t : List Access} {V : Access × Access → Bool}
    (h : ∀ l : Loc, (racyPairs (t.filter (·.loc == l))).all V = true) : (racyPairs t).all V = true :=
  List.all_eq_true.2 fun p hp => by
    have hr := racy_of_mem_racyPairs hp
    simp only [racy, conflicting, Bool.and_eq_true, beq_iff_eq] at hr
    refine List.all_eq_true.1 (h p.1.loc) p ?_
    rw [racyPairs_filter]
    simpa [hr.1.1.2] using hp

/-- Every racy pair of the table is a known finding that the repair removes: what `C16_all_races_are_known_findings` and
    `C16_race_free_after_repair` need of a pair, in one statement so that the table is evaluated once. -/
theorem racyPairs_table :
    (racyPairs table).all (fun p => knownFinding p && !(repaired p.1 && repaired p.2)) = true :=
  racyPairs_all_of_buckets fun l => by cases l <;> decide +kernel

/-- **C16_all_races_are_known_findings** — every unprotected conflicting pair of the table has the shape of one of the two
    known findings (`knownFinding`: on `entry.E` with a post-publication writer, or on `entry.C` with an LRU-only access).
    A new row or a changed guard that races on any other location, or in another way on these two, makes this false;
    one more unguarded access of the same shape does not. -/
theorem C16_all_races_are_known_findings : (racyPairs table).all knownFinding = true :=
  List.all_eq_true.2 fun p hp => (Bool.and_eq_true_iff.1 (List.all_eq_true.1 racyPairs_table p hp)).1

/-- Everything else is disciplined: the shard maps, sync.Map, the key-lock table and lock records of Failover, the label
    index, the deleter registry, `lastRun`, `expirationsSet` and the immutable key/value fields have no unprotected conflict. -/
theorem C16_table_disciplined_elsewhere :
    ((racyPairs table).filter (fun p => p.1.loc != .entryE && p.1.loc != .entryC)) = [] :=
  List.filter_eq_nil_iff.2 fun p hp => by
    have h := List.all_eq_true.1 C16_all_races_are_known_findings p hp
    simp only [knownFinding, Bool.or_eq_true, Bool.and_eq_true] at h
    rcases h with ⟨h, _⟩ | ⟨h, _⟩ <;> simp [bne, h]

/-- With the in-place write of `ExpireAll` and the plain struct copies taken out (the repairs sketched in DESIGN §7, F9) the
    table is race free. -/
theorem C16_race_free_after_repair :
    racyPairs (table.filter (fun a =>
      !(a.loc == .entryE && a.write && a.guard != .initOnly) &&          -- ExpireAll would replace entries instead
      !(a.loc == .entryC && !a.write && a.guard == .none))) = [] := by   -- Walk would hand out copies taken with atomic loads
  show racyPairs (table.filter repaired) = []
  rw [racyPairs_filter, List.filter_eq_nil_iff]
  intro p hp h
  simpa [h] using List.all_eq_true.1 racyPairs_table p hp

example : (racyPairs table).length > 0 := List.length_pos_iff.2 (by decide +kernel)

end Cache.FP
