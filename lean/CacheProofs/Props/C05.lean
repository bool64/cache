import CacheProofs.Lemmas.Failover
import CacheProofs.Props.C03

/-
  C05 — build economy: SyncRead single-flight; cached failures suppress rebuilds.

  Single-flight is a property of the frontend COMPOSED with a well-behaved backend: once the result of a build was stored,
  the backend answers every (non-SkipRead) Read of that key with that fresh value. `wbOk` / `wbNext` express exactly this
  as a constraint on the labels; everything else (other keys, schedules, builder outcomes, what the backend says about keys
  nobody built yet, refresh writes) stays free. "While its result stays fresh" = the window in which the constraint holds.
-/
namespace Cache

/-- Fresh build results the backend holds. -/
abbrev BSt := Key → Option Val

/-- The label is consistent with the backend: a non-SkipRead Read of a key holding a fresh build result hits it. -/
def wbOk (b : BSt) (s : FState) : FLabel → Bool
  | .readAns t a =>
    (s.th t).skipRead ||
    (match b (s.th t).key with
     | some v => a == .hit v
     | none => true)
  | _ => true

/-- The final store of a build result makes it the fresh value of its key. -/
def wbNext (b : BSt) (s : FState) : FLabel → BSt
  | .writeAns t .ok =>
    match (s.th t).pc with
    | .storing v => fun k => if k = (s.th t).key then some v else b k
    | _ => b
  | _ => b

def wbRun (c : FCfg) : BSt → FState → List FLabel → Option (BSt × FState)
  | b, s, [] => some (b, s)
  | b, s, l :: ls =>
    if wbOk b s l then
      match step c s l with
      | some s' => wbRun c (wbNext b s l) s' ls
      | none => none
    else none

/-- Positions of an owner between the read in the critical section and the end of `doBuild`. -/
def Pc.rebuilding : Pc → Bool
  | .classify | .refreshing | .checkErrs | .decideSync | .building | .storeErr _ | .storing _ => true
  | _ => false

/-- The single-flight invariant: a key that an owner (whose context does not carry SkipRead) is rebuilding holds no fresh
    build result. -/
def SF (b : BSt) (s : FState) : Prop :=
  ∀ u, (s.th u).owner = true → (s.th u).skipRead = false → (s.th u).pc.rebuilding = true → b (s.th u).key = none

/-- The backend's content changes only under the key of a thread at `storing`. -/
theorem wbNext_eq_or (b : BSt) (s : FState) (l : FLabel) (k : Key) :
    wbNext b s l k = b k ∨ ∃ v, (s.th l.thread).pc = .storing v ∧ k = (s.th l.thread).key := by
  unfold wbNext
  split
  · rename_i t
    cases hp : (s.th t).pc with
    | storing v => by_cases hk : k = (s.th t).key <;> simp [hk, hp]
    | _ => exact Or.inl rfl
  · exact Or.inl rfl

theorem sf_step (c : FCfg) (hsr : c.syncRead = true) (b : BSt) (s s' : FState) (l : FLabel)
    (hi : Inv s) (hsf : SF b s) (hwb : wbOk b s l = true) (h : step c s l = some s') : SF (wbNext b s l) s' := by
  obtain ⟨t, ht, hs⟩ := step_sound h
  clear h
  intro u ho hk hm
  by_cases hu : u = t
  · subst hu
    have := hsf u
    cases hs with
    | lockedMiss a hpc ha =>
      -- a non-hit answer in the critical section: by the backend constraint the key holds nothing fresh
      cases hb : b (s.th u).key <;> simp_all [wbNext, wbOk]
    | refresh | tooStale | ownerMiss | refreshed | errsMiss | syncBuild | bgBuild | built | buildFailedCached | electWon =>
      -- the rules that lead to a `rebuilding` position of an owner start from one (`electWon`: not under SyncRead)
      simp_all [Pc.rebuilding, wbNext]
    | _ => simp [Pc.rebuilding] at ho hm
  · rw [hs.frame hu] at ho hk hm ⊢
    rcases wbNext_eq_or b s l (s.th u).key with hb | ⟨v, hpc, hkey⟩
    · rw [hb]; exact hsf u ho hk hm
    · -- `t` stores the result for the key of `u`, so both own that key
      rw [ht] at hpc hkey
      have hot : (s.th t).owning := hi.owning (by simp [hpc, Pc.ownerOnly])
      have hou : (s.th u).owning := owning_of_pc ho (by cases hp : (s.th u).pc <;> simp_all [Pc.rebuilding, Pc.ownerOnly])
      exact absurd (hi.uniq u t hou hot hkey) hu

theorem sf_run (c : FCfg) (hsr : c.syncRead = true) (ls : List FLabel) {b b' : BSt} {s s' : FState} (hi : Inv s)
    (hsf : SF b s) (h : wbRun c b s ls = some (b', s')) : SF b' s' ∧ Inv s' := by
  induction ls generalizing b s with
  | nil => cases h; exact ⟨hsf, hi⟩
  | cons l rest ih =>
    simp only [wbRun] at h
    split at h
    · split at h
      · exact ih (inv_step c s _ l hi ‹_›) (sf_step c hsr b s _ l hi hsf ‹_› ‹_›) h
      · cases h
    · cases h

/-- **C05_syncread_single_flight** — SyncRead on, any number of Gets, any schedule: in every state reachable in composition
    with a well-behaved backend, while a key holds the fresh result of a build NO thread (whose context does not carry
    SkipRead) is inside the builder for that key, none is about to invoke it, and none re-stores a stale copy: a burst of
    N Gets on a missing or expired key costs exactly one successful build. -/
theorem C05_syncread_single_flight (c : FCfg) (hsr : c.syncRead = true) (ls : List FLabel) (b : BSt) (s : FState)
    (h : wbRun c (fun _ => none) FState.init ls = some (b, s)) (u : Nat)
    (hfresh : b (s.th u).key ≠ none) (hskip : (s.th u).skipRead = false) :
    (s.th u).pc ≠ .building ∧ (s.th u).pc ≠ .decideSync ∧ (s.th u).pc ≠ .checkErrs ∧ (s.th u).pc ≠ .refreshing ∧
    (∀ v, (s.th u).pc ≠ .storing v) := by
  have ⟨hsf, hi⟩ := sf_run c hsr ls inv_init (fun _ _ _ _ => rfl) h
  -- all five are positions only an owner reaches, and are `rebuilding`
  have key : ∀ p : Pc, p.ownerOnly = true → p.rebuilding = true → (s.th u).pc ≠ p := fun p h1 h2 hpc =>
    hfresh (hsf u (hi.role u (hpc ▸ h1)) hskip (hpc ▸ h2))
  exact ⟨key _ rfl rfl, key _ rfl rfl, key _ rfl rfl, key _ rfl rfl, fun v => key _ rfl rfl⟩

/-- Failure suppression, step form: with the failure cache on, a Get (without SkipRead) that reaches the failure-cache
    lookup while an unexpired failure is cached for its key returns that error and does not proceed towards the builder. -/
theorem C05_failure_suppressed (c : FCfg) (s s' : FState) (t : Nat) (now E : Time) (e : Err)
    (hpc : (s.th t).pc = .checkErrs) (hec : c.errCache = true) (hskip : (s.th t).skipRead = false)
    (hcached : s.errs (s.th t).key = some (e, E)) (hfresh : Gen.isExpired E now = false)
    (h : step c s (.errsRead t now) = some s') :
    (s'.th t).pc = .done ∧ (∃ v, (s'.th t).returned = some ⟨v, some e⟩ ∨ (s.th t).bg = true) ∧ s'.g.buildCalls = s.g.buildCalls := by
  obtain ⟨_, rfl, hs⟩ := step_sound h
  cases hs with
  | errsServed _ e' _ he =>
    obtain rfl : e = e' := by simpa [errsHit, *] using he
    cases hb : (s.th t).bg <;> simp [hb]
  | errsMiss _ _ he => simp [errsHit, *] at he

/-- The builder is only ever invoked right after a failure-cache lookup that found nothing to serve: `decideSync` is entered
    from `checkErrs` by an `errsRead` step only. Together with the previous theorem: while a failure is cached (and not
    expired) for a key, no Get without SkipRead invokes the builder for it. -/
theorem C05_build_only_after_cache_miss (c : FCfg) (s s' : FState) (l : FLabel) (t : Nat)
    (h : step c s l = some s') (hnew : (s'.th t).pc = .decideSync) (hold : (s.th t).pc ≠ .decideSync) :
    ∃ now, l = .errsRead t now ∧ (s.th t).pc = .checkErrs := by
  obtain ⟨u, _, hs⟩ := step_sound h
  clear h
  by_cases ht : t = u
  · subst ht
    cases hs with
    | errsMiss now hpc => exact ⟨now, rfl, hpc⟩
    | _ => simp at hnew
  · rw [hs.frame ht] at hnew; exact absurd hnew hold

/-- FailedUpdateTTL = -1: failures are not cached — the lookup never short-circuits and the failure is not stored, so the
    next Get that finds no fresh value invokes the builder again. -/
theorem C05_no_failure_cache (c : FCfg) (s s' : FState) (t : Nat) (now : Time) (hec : c.errCache = false)
    (hpc : (s.th t).pc = .checkErrs) (h : step c s (.errsRead t now) = some s') :
    (s'.th t).pc = .decideSync ∧ s'.errs = s.errs := by
  obtain ⟨_, rfl, hs⟩ := step_sound h
  cases hs with
  | errsServed _ _ _ he => simp [errsHit, hec] at he
  | errsMiss => simp

/-- `errCache` is exactly `FailedUpdateTTL > -1` (the three sites in each file agree: one kernel). -/
theorem C05_errCache_iff (c : FCfg) : c.errCache = true ↔ c.failedUpdateTTL > -1 := by
  cases hv : c.variant <;> simp [FCfg.errCache, hv, Gen.errCacheEnabled, Gen.errCacheEnabledOf]

-- Non-vacuity: with SyncRead, the second owner hits the freshly built value and does not build …
def demoCfg05 : FCfg := { demoCfg03 with syncRead := true }
example : ∃ b s, wbRun demoCfg05 (fun _ => none) FState.init
    [.begin 0 7 false none, .begin 1 7 false none, .elect 0, .readAns 0 .miss, .local 0, .errsRead 0 100, .local 0,
     .buildAns 0 (.ok 42 []), .writeAns 0 .ok, .local 0, .elect 1, .readAns 1 (.hit 42)] = some (b, s) ∧
    b 7 = some 42 ∧ (s.th 1).returned = some ⟨some 42, none⟩ ∧ s.g.buildCalls = 1 := by
  refine ⟨_, _, rfl, ?_, ?_, ?_⟩ <;> decide
-- … and the constraint really bites: answering that Read with a miss is not a run of the composed system
example : wbRun demoCfg05 (fun _ => none) FState.init
    [.begin 0 7 false none, .begin 1 7 false none, .elect 0, .readAns 0 .miss, .local 0, .errsRead 0 100, .local 0,
     .buildAns 0 (.ok 42 []), .writeAns 0 .ok, .local 0, .elect 1, .readAns 1 .miss] = none := by decide

end Cache
