import CacheProofs.Lemmas.Janitor
import CacheModel.DriverBackend

/-
  C12 — eviction fires only on limit breach, removes the right amount, in strategy order.

  `EvictFraction = a/b` is an exact rational here; float64 evaluation of `float64(n) * frac` is idealised (trusted
  base, the correspondence run allows one entry of slack only within 2⁻²⁰ of an integer boundary).

  The theorems about the plan are proved on the literal oracle the correspondence run judges eviction by (`Drv.spec*`,
  CacheModel/DriverBackend), which `evictPlan_eq` shows to be the model's `evictPlan`.
-/
namespace Cache
open Std
variable (hash : Key → Nat)

theorem countOverflow_eq (cfg : Cfg) (n : Nat) : countOverflow cfg n = Drv.specCountOver cfg n := by
  unfold countOverflow Drv.specCountOver Gen.countOverflowOff Gen.countOver
  by_cases h : cfg.countSoftLimit = 0 <;> simp [h]

theorem evictAmount_eq (cfg : Cfg) (n : Nat) : evictAmount cfg n (countOverflow cfg n) = Drv.specAmount cfg n := by
  unfold evictAmount Drv.specAmount Gen.fracIsDefault Gen.defaultEvictFracN Gen.defaultEvictFracD
  rw [countOverflow_eq]
  by_cases h : cfg.efn = 0 <;> simp [h]

theorem evictTrigger_eq (ho so co hasNeeded needed : Bool) :
    Gen.evictTrigger ho so co hasNeeded needed = (ho || so || co || (hasNeeded && needed)) := by
  revert ho so co hasNeeded needed; decide

theorem evictPlan_eq (cfg : Cfg) (n : Nat) (env : CleanupEnv) : evictPlan cfg n env =
    if Drv.specShouldEvict cfg n env then some ((Drv.specAmount cfg n).1 / (Drv.specAmount cfg n).2) else none := by
  simp only [evictPlan, evictTrigger_eq]
  rw [evictAmount_eq, countOverflow_eq]
  rfl

/-- No limit exceeded and `EvictionNeeded` absent or false ⇒ the cycle evicts nothing: it is exactly the
    delete-expired scan (whose effect C11 characterises). -/
theorem C12_no_breach_no_evict (kind : Kind) (cfg : Cfg) (s : Store) (env : CleanupEnv)
    (hho : env.ho = false) (hso : env.so = false) (hn : (env.hasNeeded && env.needed) = false)
    (hco : countOverflow cfg (s.cleanupScan kind cfg env.now).len = false) :
    s.cleanup kind cfg env = (s.cleanupScan kind cfg env.now, []) :=
  cleanup_of_none (by simp [evictPlan_eq, Drv.specShouldEvict, ← countOverflow_eq, hho, hso, hn, hco])

/-- Count overflow means exactly: a limit is configured and the number of entries exceeds it. -/
theorem C12_count_overflow_iff (cfg : Cfg) (n : Nat) :
    countOverflow cfg n = true ↔ cfg.countSoftLimit ≠ 0 ∧ cfg.countSoftLimit < n := by
  simp [countOverflow_eq, Drv.specCountOver]

/-- A triggered cycle WITHOUT count breach (heap / sys limit or EvictionNeeded) plans to remove `⌊n·a/b⌋` entries. -/
theorem C12_amount_fraction (cfg : Cfg) (n : Nat) (env : CleanupEnv) (hfrac : cfg.efn ≠ 0)
    (hco : countOverflow cfg n = false) (htrig : env.ho = true ∨ env.so = true ∨ (env.hasNeeded && env.needed) = true) :
    evictPlan cfg n env = some (n * cfg.efn / cfg.efd) := by
  rw [countOverflow_eq] at hco
  have ht : Drv.specShouldEvict cfg n env = true := by
    rcases htrig with h | h | h <;> simp [Drv.specShouldEvict, h]
  simp [evictPlan_eq, ht, Drv.specAmount, hco, hfrac]

/-- Removing `⌊(n·b − Z)/b⌋` of `n` entries keeps the least number `m` with `Z ≤ m·b`. -/
theorem kept_after_floor {n b Z : Nat} (hb : 0 < b) (hZ : Z ≤ n * b) :
    (n * b - Z) / b ≤ n ∧ Z ≤ (n - (n * b - Z) / b) * b ∧ (n - (n * b - Z) / b) * b < Z + b := by
  have h1 := Nat.div_mul_le_self (n * b - Z) b
  have h2 := Nat.lt_div_mul_add (a := n * b - Z) hb
  refine ⟨Nat.le_of_mul_le_mul_right (by omega) hb, ?_⟩
  rw [Nat.sub_mul]
  omega

/-- A cycle with a COUNT breach (`n > L`, `EvictFraction = a/b ∈ (0,1]`) plans to remove `k` entries such that the kept
    number `m = n − k` is within one entry of `L·(1 − a/b)`:  `L·(b−a) ≤ m·b < L·(b−a) + b`. -/
theorem C12_amount_count (cfg : Cfg) (n : Nat) (env : CleanupEnv) (hfrac : cfg.efn ≠ 0)
    (hab : cfg.efn ≤ cfg.efd) (hb : 0 < cfg.efd) (hco : countOverflow cfg n = true) :
    ∃ k, evictPlan cfg n env = some k ∧ k ≤ n ∧
      cfg.countSoftLimit * (cfg.efd - cfg.efn) ≤ (n - k) * cfg.efd ∧
      (n - k) * cfg.efd < cfg.countSoftLimit * (cfg.efd - cfg.efn) + cfg.efd := by
  have hlt := ((C12_count_overflow_iff cfg n).mp hco).2
  rw [countOverflow_eq] at hco
  refine ⟨_, by simp [evictPlan_eq, Drv.specShouldEvict, Drv.specAmount, hco, hfrac], kept_after_floor hb ?_⟩
  exact Nat.le_trans (Nat.mul_le_mul_left _ (Nat.sub_le _ _)) (Nat.mul_le_mul_right _ (Nat.le_of_lt hlt))

/-- Rank under the configured strategy: stored expiry for EvictMostExpired (note `E = 0`, "never expires", ranks lowest —
    that is the code's and the test-suite's behaviour), last-served stamp for LRU, serve count for LFU. -/
theorem C12_metric_def (e : Entry) :
    metricOf .mostExpired e = e.E ∧ metricOf .lru e = e.C ∧ metricOf .lfu e = e.C := ⟨rfl, rfl, rfl⟩

/-- **C12_order** — every entry the model's eviction removes ranks no higher than every entry it keeps. -/
theorem C12_order (st : Strategy) (s : Store) (k : Nat) (hv he : Nat) (ev ee : Entry)
    (hvic : hv ∈ s.victims st k) (hev : s.slots[hv]? = some ev)
    (hkept : he ∉ s.victims st k) (hee : s.slots[he]? = some ee) :
    metricOf st ev ≤ metricOf st ee := by
  obtain ⟨l, hl, hsorted, hmem⟩ := victims_eq st s k
  rw [hl] at hvic hkept
  obtain ⟨pv, hpv, rfl⟩ := List.mem_map.mp hvic
  -- the victim is among the first k, the kept entry among the rest
  have hpv2 := (hmem _ _).mp (List.mem_of_mem_take hpv)
  rw [hev] at hpv2; cases hpv2
  have hpe := (hmem _ _).mpr hee
  rw [← List.take_append_drop k l] at hsorted hpe
  rcases List.mem_append.mp hpe with h | h
  · exact absurd (List.mem_map.mpr ⟨_, h, rfl⟩) hkept
  · exact (List.pairwise_append.mp hsorted).2.2 _ hpv _ h

/-- Soundness of the executable check the correspondence run applies to every OBSERVED eviction (which resolves ties its
    own way): if `validEviction` accepts, every removed entry ranks no higher than every kept one. -/
theorem C12_validEviction_sound (st : Strategy) (s : Store) (removed : List Nat)
    (hval : s.validEviction st removed = true) (hv he : Nat) (ev ee : Entry)
    (hvic : hv ∈ removed) (hev : s.slots[hv]? = some ev) (hkept : he ∉ removed) (hee : s.slots[he]? = some ee) :
    metricOf st ev ≤ metricOf st ee := by
  simp only [Store.validEviction, Bool.and_eq_true, List.all_eq_true] at hval
  have h3 := hval.2 hv hvic
  simp only [hev, List.all_eq_true] at h3
  simpa [hkept] using h3 (he, ee) (TreeMap.mem_toList_iff_getElem?_eq_some.mpr hee)

/-- The model's own choice passes that check's ordering clause (so check and model agree on what "in order" means). -/
theorem C12_model_eviction_in_order (st : Strategy) (s : Store) (k : Nat) :
    ∀ hv ∈ s.victims st k, ∀ ev, s.slots[hv]? = some ev →
      ∀ he ee, he ∉ s.victims st k → s.slots[he]? = some ee → metricOf st ev ≤ metricOf st ee :=
  fun hv hvic ev hev he ee hkept hee => C12_order st s k hv he ev ee hvic hev hkept hee

/-- Eviction removes only victims: every other key keeps its entry, victims' keys read as missing afterwards. -/
theorem C12_evict_frame (st : Strategy) (s : Store) (k : Nat) (key : Key) :
    (s.evictLeast st k).get hash key = if hash key ∈ s.victims st k then none else s.get hash key :=
  get_evict s _ key

/-- The usage metric tracks the access history: a (non-skipped) read that finds the key stamps `now` (LRU) or adds one
    (LFU) — for hits and stale reads alike — and leaves it alone under EvictMostExpired; a write resets it to 0. -/
theorem C12_metric_tracks_history (kind : Kind) (cfg : Cfg) (s : Store) (hw : s.WF hash) (hk : KindOK hash kind)
    (k : Key) (e : Entry) (he : s.get hash k = some e) (now : Time) :
    ((s.read hash kind cfg k false now).1.get hash k).map (·.C) =
      some (match cfg.strategy with | .mostExpired => e.C | .lru => now | .lfu => e.C + 1) ∧
    ∀ v E b, ((s.writeCore hash k v E b).get hash k).map (·.C) = some 0 := by
  constructor
  · rw [get_read cfg hw hk, if_pos ⟨rfl, rfl⟩, he]; rfl
  · intro v E b; rw [get_writeCore]; simp

/-- **C12_oracle_is_the_model** — the literal trigger / amount the correspondence run judges observed cycles with
    (`Drv.specShouldEvict`, `Drv.specAmount`: the property's wording) is the model's plan for the decision kernels read off
    the source: with the unchanged kernels the oracle can neither alarm on a cycle the model allows nor miss one it forbids. -/
theorem C12_oracle_is_the_model (cfg : Cfg) (n : Nat) (env : CleanupEnv) :
    (evictPlan cfg n env).isSome = Drv.specShouldEvict cfg n env ∧
    evictAmount cfg n (countOverflow cfg n) = Drv.specAmount cfg n := by
  refine ⟨?_, evictAmount_eq cfg n⟩
  rw [evictPlan_eq]; split <;> simp [*]

example : let cfg : Cfg := { ttl := -1, jn := -1, jd := 1, strategy := .lfu, deleteExpiredAfter := 100, countSoftLimit := 10, efn := 1, efd := 4 }
    countOverflow cfg 13 = true ∧ evictPlan cfg 13 { now := 0, ho := false, so := false, hasNeeded := false, needed := false } = some 5 ∧
    evictPlan cfg 9 { now := 0, ho := false, so := false, hasNeeded := true, needed := true } = some 2 ∧
    evictPlan cfg 9 { now := 0, ho := false, so := false, hasNeeded := true, needed := false } = none := by decide +kernel

end Cache
