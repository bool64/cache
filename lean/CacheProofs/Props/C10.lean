import CacheProofs.Lemmas.Backend
import CacheProofs.Lemmas.Expiry
import CacheModel.DriverBackend

/-
  C10 — every entry's expiry lies within the documented TTL bounds.

  `T` = effective ttl (context ttl if non-zero, else configured TimeToLive), `J = jn/jd ∈ (0,1]` the jitter,
  `r = rn/rd ∈ [0,1)` the random number (an arbitrary input).  The stored expiry is
  `E = now + T + δ` with `δ = trunc(T·J·(r − ½))`; the theorems bound `δ` by `|T|·J/2`, show jitter can never turn a
  finite ttl into "never expires", and fix the read boundary.  float64 evaluation of the product is idealised by
  exact rationals (trusted base); the correspondence run measures the real code against these bounds.
-/
namespace Cache

/-- With jitter disabled the ttl is exactly the context ttl if non-zero, else the configured one;
    an unlimited configuration with no context ttl yields no expiry at all. -/
theorem C10_effective_ttl (cfg : Cfg) (ctxTTL : Int) (rn rd : Nat) (hj : cfg.jn ≤ 0) (now : Time) :
    (ctxTTL = 0 ∧ cfg.ttl = -1 → expireAt (ttlOf cfg ctxTTL rn rd).1 now = 0) ∧
    (¬(ctxTTL = 0 ∧ cfg.ttl = -1) → effTTL cfg ctxTTL ≠ 0 →
        expireAt (ttlOf cfg ctxTTL rn rd).1 now = now + effTTL cfg ctxTTL) := by
  have hj' : ¬ 0 < cfg.jn := by omega
  constructor
  · intro h; simp [ttlOf_fst, expireAt_eq, h]
  · intro hne hT; simp [ttlOf_fst, expireAt_eq, hne, hj', hT]

/-- Unlimited ttl and no context ttl: no expiry whatever the jitter setting. -/
theorem C10_unlimited_never_expires (cfg : Cfg) (rn rd : Nat) (now : Time) (hu : cfg.ttl = -1) :
    expireAt (ttlOf cfg 0 rn rd).1 now = 0 := by
  simp [ttlOf_fst, expireAt_eq, hu]

/-- The jitter displacement is at most `|T|·J/2` in absolute value: `2·jd·|δ| ≤ |T|·jn`. -/
theorem C10_jitter_bound (cfg : Cfg) (T : Int) (rn rd : Nat) (hjn : 0 < cfg.jn) (hjd : 0 < cfg.jd) (hr : rn < rd) :
    2 * cfg.jd * (jitterDelta cfg T rn rd).natAbs ≤ T.natAbs * cfg.jn.natAbs :=
  Nat.le_trans (Nat.mul_le_mul_left _ (natAbs_jitterDelta_le cfg T hr)) (Nat.mul_div_le _ _)

/-- Jitter never turns a finite ttl into "never expires" (nor flips its sign): `|δ| < |T|` for `J ≤ 1`. -/
theorem C10_jitter_keeps_nonzero (cfg : Cfg) (T : Int) (rn rd : Nat) (hT : T ≠ 0)
    (hjn : 0 < cfg.jn) (hjd : 0 < cfg.jd) (hj1 : cfg.jn ≤ cfg.jd) (hr : rn < rd) :
    T + jitterDelta cfg T rn rd ≠ 0 := by
  have := two_natAbs_jitterDelta_le cfg T hjn hjd hj1 hr
  omega

/-- **C10_bounds** — the stored expiry of a write at `now` with effective ttl `T ≠ 0` and jitter `J = jn/jd ∈ (0,1]`:
    it is non-zero and within `±|T|·J/2` of `now + T`. -/
theorem C10_bounds (cfg : Cfg) (ctxTTL : Int) (rn rd : Nat) (now : Time)
    (hne : ¬(ctxTTL = 0 ∧ cfg.ttl = -1)) (hT : effTTL cfg ctxTTL ≠ 0)
    (hjn : 0 < cfg.jn) (hjd : 0 < cfg.jd) (hj1 : cfg.jn ≤ cfg.jd) (hr : rn < rd) :
    let E := expireAt (ttlOf cfg ctxTTL rn rd).1 now
    E = now + effTTL cfg ctxTTL + jitterDelta cfg (effTTL cfg ctxTTL) rn rd ∧
    E ≠ now ∧
    2 * cfg.jd * (E - (now + effTTL cfg ctxTTL)).natAbs ≤ (effTTL cfg ctxTTL).natAbs * cfg.jn.natAbs := by
  intro E
  have hk := C10_jitter_keeps_nonzero cfg _ rn rd hT hjn hjd hj1 hr
  have hE : E = now + effTTL cfg ctxTTL + jitterDelta cfg (effTTL cfg ctxTTL) rn rd := by
    simp only [E, ttlOf_fst, expireAt_eq, hne, hjn, hk, if_true, if_false]; omega
  refine ⟨hE, by omega, ?_⟩
  rw [hE, Int.add_comm _ (jitterDelta ..), Int.add_sub_cancel]
  exact C10_jitter_bound cfg _ rn rd hjn hjd hr

/-- An entry without expiry is a hit at every instant. -/
theorem C10_never_expires (hash : Key → Nat) (kind : Kind) (cfg : Cfg) (s : Store) (hw : s.WF hash) (hk : KindOK hash kind)
    (k : Key) (e : Entry) (he : s.get hash k = some e) (h0 : e.E = 0) (now : Time) :
    (s.read hash kind cfg k false now).2.1 = .hit e.V := by
  rw [read_eq cfg hw hk, he]; simp [h0]

/-- Reads up to and including the expiry instant return the value; reads after it return the expiry error whose
    `ExpiredAt` is the stored expiry — the very value `Walk` reports for the entry. -/
theorem C10_read_boundary (hash : Key → Nat) (kind : Kind) (cfg : Cfg) (s : Store) (hw : s.WF hash) (hk : KindOK hash kind)
    (k : Key) (e : Entry) (he : s.get hash k = some e) (hE : e.E ≠ 0) (now : Time) :
    (now ≤ e.E → (s.read hash kind cfg k false now).2.1 = .hit e.V) ∧
    (e.E < now → (s.read hash kind cfg k false now).2.1 = .expired e.V e.E) ∧
    e ∈ s.walk := by
  rw [read_eq cfg hw hk, he]
  exact ⟨fun h => by simp [Int.not_lt.mpr h], fun h => by simp [hE, h], (hw.get_eq_some_iff.mp he).1⟩

/-- The arithmetic of `C10_admissible_complete`: `X + 1` is the `half` of `Drv.expiryBounds`, `S + 1` its float `slack`. -/
theorem expiry_in_bracket {T δ X S t0 t1 now : Int} (h0 : t0 ≤ now) (h1 : now ≤ t1) (hX : (δ.natAbs : Int) ≤ X)
    (h2 : 2 * δ.natAbs ≤ T.natAbs) (hpos : 2 * (T.natAbs : Int) < t0) (hS : 0 ≤ S) :
    (¬ now + T + δ = 0 ∧ t0 + T - (X + 1) - (S + 1) ≤ now + T + δ) ∧ now + T + δ ≤ t1 + T + (X + 1) + (S + 1) := by
  omega

/-- The interval test the correspondence run applies to every observed expiry (`Drv.admissibleE`) accepts every expiry
    the model can produce for a clock reading inside the bracket `[t0, t1]` — the check cannot raise a false alarm in exact arithmetic. -/
theorem C10_admissible_complete (cfg : Cfg) (ctxTTL : Int) (rn rd : Nat) (t0 t1 now : Time)
    (h0 : t0 ≤ now) (h1 : now ≤ t1)
    (hjd : 0 < cfg.jd) (hj1 : cfg.jn ≤ cfg.jd) (hr : rn < rd)
    (hT : ¬(ctxTTL = 0 ∧ cfg.ttl = -1) → effTTL cfg ctxTTL ≠ 0)
    -- the clock is further from the unix epoch than twice the ttl (else `now + ttl` could land on 0 = "never expires")
    (hpos : 2 * ((effTTL cfg ctxTTL).natAbs : Int) < t0) :
    Drv.admissibleE cfg ctxTTL t0 t1 (expireAt (ttlOf cfg ctxTTL rn rd).1 now) = true := by
  unfold Drv.admissibleE Drv.expiryBounds
  by_cases hne : ctxTTL = 0 ∧ cfg.ttl = -1
  · simp [ttlOf_fst, expireAt_eq, hne]
  · have hc : (ctxTTL == 0 && cfg.ttl == -1) = false := by simpa using hne
    have hTeq : (if (ctxTTL == 0) = true then cfg.ttl else ctxTTL) = effTTL cfg ctxTTL := by simp [effTTL]
    by_cases hjn : 0 < cfg.jn
    · rw [(C10_bounds cfg ctxTTL rn rd now hne (hT hne) hjn hjd hj1 hr).1]
      simp only [hc, hTeq, hjn, Bool.false_eq_true, if_true, if_false, Bool.and_eq_true, bne_iff_ne, ne_eq, decide_eq_true_eq]
      exact expiry_in_bracket h0 h1 (by exact_mod_cast natAbs_jitterDelta_le cfg _ hr)
        (two_natAbs_jitterDelta_le cfg _ hjn hjd hj1 hr) hpos (Int.ediv_nonneg (Int.natCast_nonneg _) (by decide))
    · rw [(C10_effective_ttl cfg ctxTTL rn rd (by omega) now).2 hne (hT hne)]
      simp only [hc, hTeq, hjn, Bool.false_eq_true, if_false, Bool.and_eq_true, bne_iff_ne, ne_eq, decide_eq_true_eq]
      omega

example : let cfg : Cfg := { ttl := 1000, jn := 1, jd := 2, strategy := .mostExpired, deleteExpiredAfter := 1, countSoftLimit := 0, efn := 1, efd := 2 }
    expireAt (ttlOf cfg 0 9 10).1 5000 = 6200 ∧ expireAt (ttlOf cfg 0 0 10).1 5000 = 5750 ∧
    expireAt (ttlOf cfg (-400) 9 10).1 5000 = 4520 := by decide +kernel

end Cache
