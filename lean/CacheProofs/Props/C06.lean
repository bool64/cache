import CacheProofs.Props.C03
import CacheModel.Construct
import CacheProofs.Lemmas.Step

/-
  C06 — TTL and context travel through Failover as documented.

  * `WithTTL(ctx, ttl, true)` on an existing cell (`ttlUpdate`, built from the kernel regenerated from context.go): folding
    any updates into a cell yields the least non-zero ttl — order-independent, idempotent.
  * The final store of a build carries the caller's cell (backend default when there is none), lowered by the builder's
    updates; the temporary re-store of a stale value carries UpdateTTL in a NEW cell and leaves the caller's cell alone;
    the failure is cached under a context whose ttl is reset.
  * A background build runs under the detached context (not cancelled, no deadline, parent's values); a synchronous build
    under the caller's.
-/
namespace Cache

/-- The least non-zero element of a list (0 when there is none): what "minimal non-zero value is kept" means. -/
def minNZ : List Int → Int
  | [] => 0
  | x :: xs => let m := minNZ xs; if x = 0 then m else if m = 0 then x else if x < m then x else m

theorem ttlUpdate_def (e t : Int) : ttlUpdate e t = if t ≠ 0 ∧ (e = 0 ∨ e > t) then t else e := by
  unfold ttlUpdate Gen.withTTLShouldUpdate
  by_cases h1 : t = 0 <;> by_cases h2 : e = 0 <;> by_cases h3 : e > t <;> simp [h1, h2, h3]

/-- Two updates commute: the parties' ttl requirements can arrive in any order. -/
theorem C06_update_commutes (c a b : Int) : ttlUpdate (ttlUpdate c a) b = ttlUpdate (ttlUpdate c b) a := by
  simp only [ttlUpdate_def]
  repeat' split
  all_goals omega

/-- Repeating an update changes nothing. -/
theorem C06_update_idempotent (c a : Int) : ttlUpdate (ttlUpdate c a) a = ttlUpdate c a := by
  simp only [ttlUpdate_def]
  by_cases h1 : a = 0 <;> by_cases h3 : c = 0 <;> by_cases h4 : c > a <;> simp [*]

/-- **C06_withTTL_keeps_min_nonzero** — folding updates `u₁ … uₙ` into a cell holding `c₀` leaves the least non-zero
    element of `{c₀, u₁, …, uₙ}` (0 if all are 0). In particular an update with 0 never erases a ttl. -/
theorem C06_withTTL_keeps_min_nonzero (us : List Int) : ∀ c0 : Int, us.foldl ttlUpdate c0 = minNZ (c0 :: us) := by
  induction us with
  | nil => intro c0; simp [minNZ]
  | cons u rest ih =>
    intro c0
    rw [List.foldl_cons, ih]
    simp only [minNZ, ttlUpdate_def]
    obtain ⟨m, hm⟩ : ∃ m, minNZ rest = m := ⟨_, rfl⟩
    by_cases h1 : u = 0 <;> by_cases h2 : c0 = 0 <;> by_cases h3 : m = 0 <;> by_cases h4 : c0 > u <;>
      by_cases h5 : u < m <;> simp [*] <;> omega

/-- The final store of a successful build carries the caller's cell lowered by the builder's updates; no cell ⇒ ttl 0 ⇒
    the backend default, and the builder cannot change that (documented behaviour of WithTTL). -/
theorem C06_final_store_ttl (c : FCfg) (s s' : FState) (t : Nat) (v : Val) (ups : List Int)
    (h : step c s (.buildAns t (.ok v ups)) = some s') :
    s'.g.requests.head? = some (t, Req.write (s.th t).key v
      (match (s.th t).cell with | some c0 => minNZ (c0 :: ups) | none => 0)) ∧
    (s'.th t).cell = (s.th t).cell.map (fun c0 => minNZ (c0 :: ups)) := by
  obtain ⟨_, rfl, hs⟩ := step_sound h
  cases hs
  cases hc : (s.th t).cell <;> simp [hc, C06_withTTL_keeps_min_nonzero]

/-- The temporary re-store of a stale value: ttl = UpdateTTL, in a cell of its own — the caller's cell (hence the ttl of the
    final store) is untouched. -/
theorem C06_refresh_uses_update_ttl (c : FCfg) (s s' : FState) (t : Nat) (v : Val) (since : Int)
    (hpc : (s.th t).pc = .classify) (ho : (s.th t).owner = true) (hr : (s.th t).readRes = .stale v since)
    (hf : c.freshEnough since = true) (h : step c s (.local t) = some s') :
    s'.g.requests.head? = some (t, Req.write (s.th t).key v c.updateTTL) ∧ (s'.th t).cell = (s.th t).cell ∧
    (s'.th t).pc = .refreshing := by
  obtain ⟨_, rfl, hs⟩ := step_sound h
  cases hs <;> simp_all

/-- The failure cache write happens under a context whose ttl was reset: the cached failure gets FailedUpdateTTL, never
    the caller's per-call ttl. -/
theorem C06_failure_ttl_reset (c : FCfg) (s s' : FState) (t : Nat) (E : Time) (e : Err)
    (hpc : (s.th t).pc = .storeErr e) (h : step c s (.errsWrite t E) = some s') :
    s'.g.requests.head? = some (t, Req.errWrite (s.th t).key e 0) := by
  obtain ⟨_, rfl, hs⟩ := step_sound h
  cases hs
  simp_all

/-- A detached context is never cancelled or deadlined, whatever happens to its parent, and still exposes its values. -/
theorem C06_detached_context (p : CtxView) :
    (detach p).cancellable = false ∧ (detach p).err = none ∧ (detach p).deadline = none ∧ (detach p).value = p.value := by
  simp [detach, Gen.detachedNeverDone, Gen.detachedNoErr, Gen.detachedNoDeadline, Gen.detachedForwardsValues]

/-- The context a background build runs under (both frontends): not cancellable, no error, no deadline - whatever the caller's
    context carries or later becomes - and the caller's values. -/
theorem C06_bg_build_context (v : Variant) (caller : CtxView) :
    (bgBuildCtx v caller).cancellable = false ∧ (bgBuildCtx v caller).err = none ∧
    (bgBuildCtx v caller).deadline = none ∧ (bgBuildCtx v caller).value = caller.value := by
  have h : bgBuildCtx v caller = detach caller := by
    cases v <;> simp [bgBuildCtx, ctxSyncDetaches, Gen.ctxSyncDetaches, Gen.ctxSyncDetachesOf]
  rw [h]; exact C06_detached_context caller

/-- The builder runs under the detached context exactly when the Get has already returned (background update); a
    synchronous build gets the caller's own context. -/
theorem C06_bg_ctx_detached (c : FCfg) (s s' : FState) (t : Nat) (hpc : (s.th t).pc = .decideSync)
    (h : step c s (.local t) = some s') :
    (s'.th t).pc = .building ∧
    s'.g.requests.head? = some (t, Req.build (s.th t).key (s'.th t).detached) ∧
    ((s'.th t).detached = true → (s'.th t).bg = true ∧ (s'.th t).returned = some ⟨(s.th t).stale, none⟩) ∧
    ((s'.th t).detached = false → (s'.th t).returned = (s.th t).returned ∧ (s'.th t).bg = (s.th t).bg) := by
  obtain ⟨_, rfl, hs⟩ := step_sound h
  cases hs <;> simp_all

/-- SkipRead forces a rebuild whose result is still stored (the lone-Get form is `C03_skipread_bypasses_failure_cache`). -/
theorem C06_skipread_rebuilds_and_stores (c : FCfg) (a : LoneEnv) (key : Key) (cached : Option (Err × Time)) (u : Val) (ups : List Int)
    (hr : a.read = .miss) (hb : a.build = .ok u ups) (hs : a.storeWrite = .ok) :
    ((loneGet c a key true cached).th 0).returned = some ⟨some u, none⟩ ∧
    (0, Req.write key u 0) ∈ (loneGet c a key true cached).g.requests :=
  C03_skipread_bypasses_failure_cache c a key cached u ups hr hb hs

example : [300, 0, 120, 600].foldl ttlUpdate 0 = 120 ∧ [0].foldl ttlUpdate 5000 = 5000 ∧ [-1].foldl ttlUpdate 5000 = -1 := by decide

end Cache
