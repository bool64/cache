import CacheProofs.Lemmas.Failover

/-
  C04 — Get always completes and key locks are always released.

  Liveness is stated in the form a transition system supports: (1) no lock outlives its owner
  (`C04_locks_released_when_quiescent`), (2) a waiting thread is never orphaned — its lock is closed (so it can return at
  once, `C04_wake_enabled`) or a live owner thread that is itself not waiting holds it (`C04_no_stuck_waiter`), (3) every
  started thread that is neither waiting nor finished can take a step as soon as the call-out it waits for answers
  (`C04_enabled`), and (4) every step strictly decreases the stepping thread's rank and leaves all other threads alone
  (`C04_bounded_steps`), so each Get finishes within 12 of its own steps once its call-outs return. Caller behaviour after
  return (cancelling its context, rewriting the key buffer) cannot affect the machine: the key is captured by value at `begin`
  (`C04_key_captured_by_value`) and no later step reads the caller's context.
-/
namespace Cache

/-- All Gets and background builds finished ⇒ no key lock remains. -/
theorem C04_locks_released_when_quiescent (c : FCfg) (s : FState) (h : Reachable c s)
    (hq : ∀ t, (s.th t).pc = .idle ∨ (s.th t).pc = .done) : ∀ k, s.keyLocks k = none := by
  intro k
  cases hk : s.keyLocks k with
  | none => rfl
  | some l =>
    obtain ⟨t, ht, _, _⟩ := (reachable_inv h).held k l hk
    rcases hq t with hp | hp <;> simp [Thread.owning, hp] at ht

/-- A waiter is never orphaned. -/
theorem C04_no_stuck_waiter (c : FCfg) (s : FState) (h : Reachable c s) (t : Nat) (hw : (s.th t).pc = .waiting)
    (ho : (s.th t).owner = false) :
    (s.kl (s.th t).lid).closed = true ∨
    ∃ u, u ≠ t ∧ (s.th u).owning ∧ (s.th u).key = (s.th t).key ∧ (s.th u).lid = (s.th t).lid := by
  have hi := reachable_inv h
  rcases (hi.att t ⟨ho, Or.inr (Or.inr hw)⟩).2 with hc | hreg
  · exact Or.inl hc
  · obtain ⟨u, hu1, hu2, hu3⟩ := hi.held _ _ hreg
    refine Or.inr ⟨u, ?_, hu1, hu2, hu3⟩
    intro hut; subst hut
    simp [Thread.owning, hw] at hu1

/-- A closed lock lets its waiter return immediately. -/
theorem C04_wake_enabled (c : FCfg) (s : FState) (t : Nat) (hw : (s.th t).pc = .waiting)
    (hc : (s.kl (s.th t).lid).closed = true) : (step c s (.wake t)).isSome = true := by
  simp [step, hw, hc]

/-- Rank of a program position: strictly decreasing along every path of `Get` (there is no loop). -/
def Pc.rank : Pc → Nat
  | .idle => 12 | .preRead => 11 | .wantLock => 10 | .lockedRead => 9 | .classify => 8 | .refreshing => 7
  | .checkErrs => 6 | .decideSync => 5 | .building => 4 | .storeErr _ => 3 | .storing _ => 3 | .finish _ => 2
  | .waiting => 1 | .done => 0

/-- **C04_bounded_steps** — every step strictly lowers the rank of the thread that takes it and does not touch any other
    thread: a Get (including its background continuation) performs at most 12 steps. -/
theorem C04_bounded_steps (c : FCfg) (s s' : FState) (l : FLabel) (h : step c s l = some s') :
    (s'.th l.thread).pc.rank < (s.th l.thread).pc.rank ∧ ∀ u, u ≠ l.thread → s'.th u = s.th u := by
  obtain ⟨t, ht, hs⟩ := step_sound h
  refine ⟨?_, fun u hu => hs.frame (ht ▸ hu)⟩
  clear h
  cases hs <;> simp [Pc.rank, *]

/-- **C04_enabled** — a thread that is neither finished, idle nor waiting can always take its next step (given the answer
    of the call-out it is blocked in, whatever that answer is): nothing inside `Get` can block except the wait for a lock. -/
theorem C04_enabled (c : FCfg) (s : FState) (t : Nat) :
    match (s.th t).pc with
    | .idle | .done | .waiting => True
    | .preRead | .lockedRead => ∀ a, (step c s (.readAns t a)).isSome = true
    | .wantLock => (step c s (.elect t)).isSome = true
    | .classify | .decideSync | .finish _ => (step c s (.local t)).isSome = true
    | .refreshing | .storing _ => ∀ a, (step c s (.writeAns t a)).isSome = true
    | .checkErrs => ∀ now, (step c s (.errsRead t now)).isSome = true
    | .building => ∀ a, (step c s (.buildAns t a)).isSome = true
    | .storeErr _ => ∀ E, (step c s (.errsWrite t E)).isSome = true := by
  -- at every position `step` ends in `some _`, whichever way its branches go
  cases hpc : (s.th t).pc <;> simp only [step, hpc, bne_self_eq_false, Bool.false_eq_true, if_false] <;> intros <;>
    repeat' split
  all_goals rfl

/-- Rewriting the caller's key buffer or cancelling its context after `begin` is not a label of the machine at all: the
    thread captured the key by value, and no step reads the caller's context again. What ties this to the code is the
    correspondence run, which rewrites every key buffer and cancels contexts at every opportunity. -/
theorem C04_key_captured_by_value (c : FCfg) (s s' : FState) (l : FLabel) (h : step c s l = some s') (t : Nat)
    (hstarted : (s.th t).pc ≠ .idle) : (s'.th t).key = (s.th t).key := by
  obtain ⟨u, _, hs⟩ := step_sound h
  by_cases ht : t = u
  · subst ht
    -- only `begin` sets the key
    cases hs with
    | beginLock _ _ _ hpc | beginRead _ _ _ hpc => exact absurd hpc hstarted
    | _ => simp
  · rw [hs.frame ht]

end Cache
