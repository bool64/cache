import CacheProofs.Props.C13

/-
  C14 — HTTP transfer imports exactly what was exported and refuses mismatched types; the types hash depends only on
  the SET of registered types.

  `net/http`, `encoding/gob` and `reflect` are trusted; the per-type fingerprint `fp` (FNV-64 over the recursive type
  description) is an ARBITRARY function here — the theorems hold for every fingerprint function, and the correspondence
  run checks in fresh processes that the real one is deterministic.
-/
namespace Cache

def xorAll (fp : Nat → BitVec 64) (ts : List Nat) : BitVec 64 := ts.foldr (fun t acc => fp t ^^^ acc) 0#64

theorem xorAll_perm (fp : Nat → BitVec 64) {a b : List Nat} (h : a.Perm b) : xorAll fp a = xorAll fp b :=
  h.foldr_eq' (fun x _ y _ z => by rw [← BitVec.xor_assoc, ← BitVec.xor_assoc, BitVec.xor_comm (fp y)]) _

/-- Invariant of the registration fold (`typesHash`). -/
structure GobReg.WF (fp : Nat → BitVec 64) (r : GobReg) : Prop where
  nodup : r.seen.Nodup
  hash : r.hash = xorAll fp r.seen

theorem GobReg.mem_seen_register (fp : Nat → BitVec 64) (r : GobReg) (t t' : Nat) :
    t' ∈ (r.register fp t).seen ↔ t' = t ∨ t' ∈ r.seen := by
  unfold GobReg.register
  split
  · rename_i h
    exact (or_iff_right_of_imp fun e => e ▸ (by simpa using h)).symm
  · simp

theorem GobReg.WF.register {fp : Nat → BitVec 64} {r : GobReg} (h : r.WF fp) (t : Nat) : (r.register fp t).WF fp := by
  unfold GobReg.register
  split
  · exact h
  · rename_i hn
    exact ⟨List.nodup_cons.2 ⟨by simpa using hn, h.nodup⟩, by simp [xorAll, h.hash, BitVec.xor_comm]⟩

theorem GobReg.foldl_register (fp : Nat → BitVec 64) (regs : List Nat) (r : GobReg) (h : r.WF fp) :
    (regs.foldl (GobReg.register fp) r).WF fp ∧ ∀ t, t ∈ (regs.foldl (GobReg.register fp) r).seen ↔ t ∈ r.seen ∨ t ∈ regs := by
  induction regs generalizing r with
  | nil => simp [h]
  | cons t rest ih =>
    have := ih _ (h.register t)
    simp only [List.foldl_cons, this, GobReg.mem_seen_register, List.mem_cons, true_and]
    intro t'
    rw [or_assoc, or_left_comm]

theorem typesHash_spec (fp : Nat → BitVec 64) (regs : List Nat) :
    ∃ seen : List Nat, seen.Nodup ∧ (∀ t, t ∈ seen ↔ t ∈ regs) ∧ typesHash fp regs = xorAll fp seen := by
  have := GobReg.foldl_register fp regs {} ⟨.nil, rfl⟩
  exact ⟨_, this.1.nodup, by simpa using this.2, this.1.hash⟩

/-- **C14_hash_set_invariant** — the types hash is a function of the SET of registered types: any two registration
    sequences with the same members (any order, any multiplicity) give the same hash. -/
theorem C14_hash_set_invariant (fp : Nat → BitVec 64) (r₁ r₂ : List Nat) (hset : ∀ t, t ∈ r₁ ↔ t ∈ r₂) :
    typesHash fp r₁ = typesHash fp r₂ := by
  obtain ⟨s₁, n₁, m₁, h₁⟩ := typesHash_spec fp r₁
  obtain ⟨s₂, n₂, m₂, h₂⟩ := typesHash_spec fp r₂
  rw [h₁, h₂]
  exact xorAll_perm fp ((List.perm_ext_iff_of_nodup n₁ n₂).2 fun t => by rw [m₁, m₂, hset])

/-- Registering a type again changes nothing. -/
theorem C14_reregister_idempotent (fp : Nat → BitVec 64) (regs : List Nat) (t : Nat) (ht : t ∈ regs) :
    typesHash fp (regs ++ [t]) = typesHash fp regs :=
  C14_hash_set_invariant fp _ _ fun t' => by simp +contextual [ht]

/-- Adding a NEW type with a non-zero fingerprint changes the hash. -/
theorem C14_hash_changes_on_add (fp : Nat → BitVec 64) (regs : List Nat) (t : Nat) (hnew : t ∉ regs) (hfp : fp t ≠ 0#64) :
    typesHash fp (regs ++ [t]) ≠ typesHash fp regs := by
  have hm := (GobReg.foldl_register fp regs {} ⟨.nil, rfl⟩).2 t
  have : typesHash fp (regs ++ [t]) = typesHash fp regs ^^^ fp t := by
    simp [typesHash, GobReg.register, hm, hnew]
  rw [this]
  exact fun heq => hfp ((BitVec.xor_right_inj _).1 (heq.trans BitVec.xor_zero.symm))

variable (hash : Key → Nat)

/-- Import of one named cache: when the exporter knows the name and the type hashes agree, the importer's (empty) cache
    ends up with exactly the exporter's entries (by C13), in whatever order the dump produced them. -/
theorem C14_import_exact (src : Store) (hw : src.WF hash) (dump : List Entry) (hperm : dump.Perm src.walk)
    (hE hI : BitVec 64) (heq : hE = hI) :
    ∀ k, (importOne hash Store.empty true hE hI dump).get hash k = src.get hash k := by
  intro k
  simp only [importOne, heq, beq_self_eq_true, Bool.and_self, if_true]
  exact (C13_same_entries hash src hw dump hperm).1 k

/-- A types-hash mismatch, or a name the exporter does not know, imports nothing: the target is left untouched. -/
theorem C14_mismatch_imports_nothing (target : Store) (dump : List Entry) (has : Bool) (hE hI : BitVec 64)
    (h : has = false ∨ hE ≠ hI) :
    importOne hash target has hE hI dump = target := by
  rcases h with h | h <;> simp [importOne, h]

example : typesHash (fun t => BitVec.ofNat 64 (t * 7919 + 13)) [3, 1, 2, 3, 1] =
          typesHash (fun t => BitVec.ofNat 64 (t * 7919 + 13)) [2, 2, 1, 3] := by decide
example : typesHash (fun t => BitVec.ofNat 64 (t * 7919 + 13)) [3, 1, 2, 4] ≠
          typesHash (fun t => BitVec.ofNat 64 (t * 7919 + 13)) [3, 1, 2] := by decide

end Cache
