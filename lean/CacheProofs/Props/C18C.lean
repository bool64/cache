import CacheModel.Prims

/-
  C18 under concurrency, for SyncMap's delete counter: whatever the interleaving of Writes, Deletes and the per-key steps of
  any number of DeleteAll calls, `cache_delete` equals the number of entries that ceased to exist, and entries are conserved
  per key. Proved over ALL primitive sequences (induction), with the reporting decisions taken from the regenerated kernels.
-/
namespace Cache.Prims

/-- **C18_syncmap_removals_counted_exactly** — under any interleaving, the delete counter equals the entries removed. -/
theorem C18_syncmap_removals_counted_exactly (ps : List Prim) : (run {} ps).counted = (run {} ps).removedTotal :=
  List.foldlRecOn ps step (motive := fun s => s.counted = s.removedTotal) rfl fun s h p _ => by
    cases p with
    | store k => simp only [step]; split <;> exact h
    | delete k => simp only [step, Gen.syncDeleteMisses]; cases s.present k <;> simp [h]
    | sweep k => simp only [step, Gen.syncDeleteAllCounts]; cases s.present k <;> simp [h]

def Conserved (s : St) : Prop := ∀ k, s.created k = s.removed k + (if s.present k then 1 else 0)

/-- **C18_syncmap_entries_conserved** — per key: entries created = entries removed + (1 if one is present). -/
theorem C18_syncmap_entries_conserved (ps : List Prim) : Conserved (run {} ps) :=
  List.foldlRecOn ps step (motive := Conserved) (fun _ => rfl) fun s h p _ k' => by
    have hk := h k'
    -- every primitive touches one key: another key keeps its equation, and on the key itself it is arithmetic either way
    cases p with
    | _ k => by_cases e : k' = k <;> cases hp : s.present k <;> simp_all [step, upd]

/-- **C18_blind_sweep_overcounts** — the code before repair F15 (count every key the Range visits) is refuted by two DeleteAll
    calls meeting on one key: one entry removed, two counted. -/
theorem C18_blind_sweep_overcounts :
    let s := [Prim.store 1, Prim.sweep 1, Prim.sweep 1].foldl stepBlind {}
    s.removedTotal = 1 ∧ s.counted = 2 := by decide

example : (run {} [.store 1, .store 2, .sweep 1, .delete 1, .sweep 2, .sweep 2, .store 1]).counted = 2 := by decide

end Cache.Prims
