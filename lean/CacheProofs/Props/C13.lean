import CacheProofs.Lemmas.Backend
import CacheModel.Transfer

/-
  C13 — Dump followed by Restore reproduces the cache exactly.

  `encoding/gob` is MODELLED as the identity on `{K,V,E,C}` records decoded into fresh variables (trusted base; the
  correspondence run is what notices a decode target being reused).  A dump is ANY permutation of the source's entries
  (Go map iteration order is arbitrary), so every theorem quantifies over all permutations.
-/
namespace Cache
open Std
variable (hash : Key → Nat)

theorem restore_slots (recs : List Entry) (s : Store) :
    (s.restore hash recs).1.slots = s.slots.insertMany (recs.map fun e => (hash e.K, e)) := by
  unfold Store.restore
  induction recs generalizing s with
  | nil => rfl
  | cons e rest ih => rw [List.foldl_cons, ih, List.map_cons, TreeMap.insertMany_cons]; rfl

/-- Among records sharing a slot the last one would win; a dump never has two (`walk_slots_nodup`). -/
theorem restore_slot_iff {recs l : List Entry} (hperm : recs.Perm l) (hd : l.Pairwise (fun a b => hash a.K ≠ hash b.K))
    (h : Nat) (e : Entry) : ((Store.empty).restore hash recs).1.slots[h]? = some e ↔ e ∈ l ∧ hash e.K = h := by
  have hd' : (recs.map fun e => (hash e.K, e)).Pairwise (fun a b => ¬ compare a.1 b.1 = .eq) := by
    rw [List.pairwise_map]; exact ((hperm.pairwise_iff Ne.symm).mpr hd).imp (by simp)
  rw [← hperm.mem_iff]
  have hmem : ∀ x ∈ recs, ((Store.empty).restore hash recs).1.slots[hash x.K]? = some x := fun x hx => by
    rw [restore_slots]
    exact TreeMap.getElem?_insertMany_list_of_mem (by simp) hd' (List.mem_map.mpr ⟨x, hx, rfl⟩)
  constructor
  · intro he
    by_cases hx : ∃ x ∈ recs, hash x.K = h
    · obtain ⟨x, hx, rfl⟩ := hx
      rw [hmem x hx] at he
      cases he; exact ⟨hx, rfl⟩
    · rw [restore_slots, TreeMap.getElem?_insertMany_list_of_contains_eq_false (by simpa using hx)] at he
      simp [Store.empty] at he
  · rintro ⟨he, rfl⟩; exact hmem e he

/-- `hsep` holds of the source's own slot function (`walk_slots_nodup`) and of every injective one. -/
theorem get_restore_dump (hash' : Key → Nat) {s : Store} (hw : s.WF hash) {recs : List Entry} (hperm : recs.Perm s.walk)
    (hsep : s.walk.Pairwise (fun a b => hash' a.K ≠ hash' b.K)) (k : Key) :
    ((Store.empty).restore hash' recs).1.get hash' k = s.get hash k := by
  ext e
  rw [Store.get_eq_some, restore_slot_iff hash' hperm hsep, hw.get_eq_some_iff, and_assoc,
    and_iff_right_of_imp (congrArg hash')]

/-- **C13_roundtrip** — restoring ANY permutation of a well-formed store's entries into an empty cache of the same family
    yields the same content slot by slot (keys, values incl. nil, expiry incl. 0, usage metric), and reports their number. -/
theorem C13_roundtrip (s : Store) (hw : s.WF hash) (recs : List Entry) (hperm : recs.Perm s.walk) :
    (∀ h : Nat, ((Store.empty).restore hash recs).1.slots[h]? = s.slots[h]?) ∧
    ((Store.empty).restore hash recs).2 = s.len := by
  constructor
  · intro h
    ext e
    rw [restore_slot_iff hash hperm (List.pairwise_map.mp (walk_slots_nodup hw)), mem_walk_iff hw, hw.slot_eq_some, and_comm]
  · simp [Store.restore, hperm.length_eq, walk_length]

/-- Same keys, values and expiry times, per key; Len agrees; and dumping the restored cache yields the same entry set
    again, so dumps can be relayed through any number of instances. -/
theorem C13_same_entries (s : Store) (hw : s.WF hash) (recs : List Entry) (hperm : recs.Perm s.walk) :
    let t := ((Store.empty).restore hash recs).1
    (∀ k, t.get hash k = s.get hash k) ∧ t.WF hash ∧ (∀ e, e ∈ t.walk ↔ e ∈ s.walk) := by
  have hslots := (C13_roundtrip hash s hw recs hperm).1
  have hget : ∀ k, ((Store.empty).restore hash recs).1.get hash k = s.get hash k := by
    intro k; unfold Store.get; rw [hslots]
  have hwf : ((Store.empty).restore hash recs).1.WF hash := by
    intro h e he; rw [hslots] at he; exact hw h e he
  refine ⟨hget, hwf, ?_⟩
  intro e
  rw [mem_walk_iff hwf, mem_walk_iff hw, hget]

/-- Relaying: a dump of the restored cache (any order) restores to the same content again. -/
theorem C13_chain (s : Store) (hw : s.WF hash) (recs : List Entry) (hperm : recs.Perm s.walk)
    (recs2 : List Entry) (hperm2 : recs2.Perm ((Store.empty).restore hash recs).1.walk) :
    ∀ k, ((Store.empty).restore hash recs2).1.get hash k = s.get hash k := by
  have h1 := C13_same_entries hash s hw recs hperm
  have h2 := C13_same_entries hash _ h1.2.1 recs2 hperm2
  intro k; rw [h2.1, h1.1]

/-- Across families (e.g. sharded source, SyncMap target): with a target slot function that is injective, the content is
    reproduced per key as well. With a colliding target hash exactly the colliding keys can be lost — see the example. -/
theorem C13_cross_family (hash' : Key → Nat) (hinj : Function.Injective hash') (s : Store) (hw : s.WF hash)
    (recs : List Entry) (hperm : recs.Perm s.walk) (k : Key) :
    ((Store.empty).restore hash' recs).1.get hash' k = s.get hash k :=
  get_restore_dump hash hash' hw hperm ((List.pairwise_map.mp (walk_keys_nodup hw)).imp fun hne h => hne (hinj h)) k

example :
    let s := ((Store.empty).writeCore id 1 (some 5) 0 false).writeCore id 2 none 77 false
    ((Store.empty).restore id s.walk.reverse).1.walk = s.walk := by decide +kernel
-- a colliding target hash loses one of two keys
example :
    let s := ((Store.empty).writeCore id 1 (some 5) 0 false).writeCore id 3 (some 6) 0 false
    ((Store.empty).restore (fun k => k % 2) s.walk).1.len = 1 := by decide +kernel

end Cache
