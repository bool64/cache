import CacheProofs.Lemmas.Backend

/-
  C09 — keys are isolated: hash collisions never leak (backend half).

  Every theorem here holds for EVERY slot function `hash` — no injectivity assumption — so in particular for
  xxhash64 with all its collisions.  (For the SyncMap kind the slot numbering is injective by construction: `KindOK`.)
  The key-buffer half of C09 is about aliasing, a runtime fact the value-semantics model cannot exhibit: it is
  enforced by the harness rewriting every key buffer after each call (see DESIGN.md §6 C09).
-/
namespace Cache
variable (hash : Key → Nat)

/-- A Read of `k` never returns (fresh or stale) anything but the entry stored under `k` itself. -/
theorem C09_read_never_foreign (kind : Kind) (cfg : Cfg) (s : Store) (hw : s.WF hash) (hk : KindOK hash kind)
    (k : Key) (now : Time) (v : Option Val) :
    ((s.read hash kind cfg k false now).2.1 = .hit v ∨ ∃ e, (s.read hash kind cfg k false now).2.1 = .expired v e) →
    ∃ ent, s.slots[hash k]? = some ent ∧ ent.K = k ∧ ent.V = v := by
  rw [read_eq cfg hw hk]
  cases hg : s.get hash k with
  | none => simp
  | some ent =>
    have ⟨hs, hek⟩ := Store.get_eq_some.mp hg
    intro h
    refine ⟨ent, hs, hek, ?_⟩
    by_cases hx : ent.E ≠ 0 ∧ ent.E < now <;> simpa [hx] using h

/-- Delete of `k` removes only an entry whose key IS `k`, reports NotFound otherwise, and never touches what is
    stored under any other key — colliding or not. -/
theorem C09_delete_never_foreign (kind : Kind) (s : Store) (hw : s.WF hash) (hk : KindOK hash kind) (k : Key) :
    ((s.delete hash kind k).2.1 = true ↔ ∃ ent, s.slots[hash k]? = some ent ∧ ent.K = k) ∧
    (∀ k', k' ≠ k → (s.delete hash kind k).1.get hash k' = s.get hash k') := by
  constructor
  · simp only [delete_eq hw hk, ← Store.get_eq_some, ← Option.isSome_iff_exists]
    cases s.get hash k <;> simp
  · intro k' hne
    rw [get_delete hw hk, if_neg hne]

/-- A collision costs at most a miss: after a write of the colliding twin `k'`, `k` reads as missing — never as `v'` —
    and `k'` reads its own value. -/
theorem C09_collision_costs_a_miss (kind : Kind) (cfg : Cfg) (s : Store) (hw : s.WF hash) (hk : KindOK hash kind)
    (k k' : Key) (hne : k ≠ k') (hcol : hash k = hash k') (v' : Option Val) (b : Bool) (now : Time) :
    ((s.writeCore hash k' v' 0 b).read hash kind cfg k false now).2.1 = .miss ∧
    ((s.writeCore hash k' v' 0 b).read hash kind cfg k' false now).2.1 = .hit v' := by
  simp [read_eq cfg (wf_writeCore hw _ _ _ _) hk, get_writeCore, hne, hcol]

/-- A write of `k` leaves every other key's entry as it was, or (only when the slots collide) drops it. It never
    changes the value another key maps to. -/
theorem C09_write_frame (s : Store) (k k' : Key) (hne : k' ≠ k) (v : Option Val) (E : Time) (b : Bool) :
    (s.writeCore hash k v E b).get hash k' = s.get hash k' ∨
    ((s.writeCore hash k v E b).get hash k' = none ∧ hash k' = hash k) := by
  rw [get_writeCore]
  by_cases hh : hash k' = hash k
  · right; simp [hne, hh]
  · left; simp [hne, hh]

def writesOf : History → List (Key × Option Val)
  | [] => []
  | (_, .write k v _ _ _) :: r => (k, v) :: writesOf r
  | (_, .store k v _ _) :: r => (k, v) :: writesOf r
  | _ :: r => writesOf r

/-- Every stored entry holds a value that was written for its own key. -/
def BProv (W : List (Key × Option Val)) (s : Store) : Prop :=
  ∀ k e, s.get hash k = some e → (k, e.V) ∈ W

def OutProv (W : List (Key × Option Val)) : Op → Out → Prop
  | .read k _, .read (.hit v) => (k, v) ∈ W
  | .read k _, .read (.expired v _) => (k, v) ∈ W
  | .load k, .loaded (some v) => (k, v) ∈ W
  | _, .walk es => ∀ e ∈ es, (e.K, e.V) ∈ W
  | _, _ => True

theorem bprov_mono {W W' : List (Key × Option Val)} {s : Store} (h : BProv hash W s) (hsub : ∀ x, x ∈ W → x ∈ W') :
    BProv hash W' s := fun k e he => hsub _ (h k e he)

/-- The store side of provenance, free of any bookkeeping of past writes. -/
theorem step_value_sub {s : Store} (kind : Kind) (cfg : Cfg) (hw : s.WF hash) (hk : KindOK hash kind)
    (now : Time) (op : Op) {k' : Key} {e' : Entry} (h : (Backend.step hash kind cfg s now op).1.get hash k' = some e') :
    (∃ e0, s.get hash k' = some e0 ∧ e0.V = e'.V) ∨ (k', e'.V) ∈ writesOf [(now, op)] := by
  cases op with
  | write k v ctxTTL rn rd | store k v rn rd =>
    rcases get_insert_some (e := ⟨k, v, _, 0⟩) rfl h with rfl | h0
    · exact .inr (by simp [writesOf, ← (Store.get_eq_some.mp h).2])
    · exact .inl ⟨_, h0, rfl⟩
  | read k skip =>
    have ⟨_, h0, hv, _⟩ := get_read_some cfg hw hk h
    exact .inl ⟨_, h0, hv⟩
  | load k =>
    have ⟨_, h0, hv, _⟩ := get_read_some cfg hw hk (skip := false) h
    exact .inl ⟨_, h0, hv⟩
  | delete k => exact .inl ⟨_, (delete_sub kind s k).get h, rfl⟩
  | expireAll =>
    rw [Backend.step, get_expireAll] at h
    obtain ⟨e0, h0, rfl⟩ := Option.map_eq_some_iff.mp h
    exact .inl ⟨_, h0, rfl⟩
  | deleteAll => simp [Backend.step] at h
  | len | walk => exact .inl ⟨_, h, rfl⟩

theorem C09_step_provenance {W : List (Key × Option Val)} {s : Store} (kind : Kind) (cfg : Cfg)
    (hw : s.WF hash) (hk : KindOK hash kind) (hp : BProv hash W s) (now : Time) (op : Op) :
    OutProv W op (Backend.step hash kind cfg s now op).2.1 ∧
    BProv hash (W ++ writesOf [(now, op)]) (Backend.step hash kind cfg s now op).1 := by
  constructor
  · cases op with
    | read k skip =>
      cases skip
      · simp only [Backend.step, read_eq cfg hw hk]
        cases hg : s.get hash k with
        | none => trivial
        | some e => dsimp only; split <;> exact hp k e hg
      · trivial
    | load k =>
      simp only [Backend.step, read_eq cfg hw hk]
      cases hg : s.get hash k with
      | none => trivial
      | some e => by_cases hx : e.E ≠ 0 ∧ e.E < now <;> simp [hx, OutProv, hp k e hg]
    | walk => exact fun e he => hp e.K e ((mem_walk_iff hw e).mp he)
    | _ => trivial
  · intro k' e' he'
    rw [List.mem_append]
    exact (step_value_sub hash kind cfg hw hk now op he').imp (fun ⟨e0, h0, hv⟩ => hv ▸ hp k' e0 h0) id

/-- Outputs of a run, each checked against the writes that preceded it. -/
def OutsProv : List (Key × Option Val) → History → List Out → Prop
  | _, [], [] => True
  | W, (now, op) :: r, o :: os => OutProv W op o ∧ OutsProv (W ++ writesOf [(now, op)]) r os
  | _, _, _ => False

/-- **C09_values_have_provenance** — for every hash function (collisions included), every history: whatever a
    Read/Load/Walk returns for a key was written for that very key earlier in the history. -/
theorem C09_values_have_provenance (kind : Kind) (cfg : Cfg) (hk : KindOK hash kind) (h : History) :
    ∀ (W : List (Key × Option Val)) (s : Store), s.WF hash → BProv hash W s →
      OutsProv W h (Backend.run hash kind cfg s h).2.1 := by
  induction h with
  | nil => intro W s _ _; trivial
  | cons top rest ih =>
    intro W s hw hp
    obtain ⟨now, op⟩ := top
    have ⟨ho, hp'⟩ := C09_step_provenance hash kind cfg hw hk hp now op
    exact ⟨ho, ih _ _ (wf_step cfg hw hk now op) hp'⟩

example : (2 : Key) ≠ 4 ∧ (fun k : Key => k % 2) 2 = (fun k : Key => k % 2) 4 := by decide
example :
    let s := (Store.empty).writeCore (fun k => k % 2) 2 (some 7) 0 false
    ((s.writeCore (fun k => k % 2) 4 (some 9) 0 false).read (fun k => k % 2) .sharded
      { ttl := -1, jn := -1, jd := 1, strategy := .mostExpired, deleteExpiredAfter := 1, countSoftLimit := 0, efn := 1, efd := 2 }
      2 false 100).2.1 = .miss := by decide +kernel

end Cache
