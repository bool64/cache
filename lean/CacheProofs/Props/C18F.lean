import CacheProofs.Lemmas.Failover

/-
  C18 (Failover half) — cache_build, cache_failed, cache_refreshed account for every event exactly once.
  The counters are ghost fields of the machine, bumped at the positions where the code calls `stat.Add`
  (`cache_build`: the deferred Add at the exit of doBuild; `cache_failed`: when the builder returns an error;
  `cache_refreshed`: before the stale re-store).
-/
namespace Cache

/-- Is the thread inside `doBuild` (builder invoked, deferred `cache_build` not yet counted)? -/
def Pc.inDoBuild : Pc → Bool
  | .building | .storing _ | .storeErr _ => true
  | _ => false

def pendingBuilds (s : FState) (n : Nat) : Nat := ((List.range n).filter (fun t => (s.th t).pc.inDoBuild)).length

theorem pending_frame (s s' : FState) (n : Nat) (h : ∀ u, u < n → (s'.th u).pc.inDoBuild = (s.th u).pc.inDoBuild) :
    pendingBuilds s' n = pendingBuilds s n := by
  unfold pendingBuilds
  congr 1
  apply List.filter_congr
  intro u hu
  exact h u (List.mem_range.mp hu)

theorem pendingBuilds_succ (s : FState) (n : Nat) :
    pendingBuilds s (n + 1) = pendingBuilds s n + if (s.th n).pc.inDoBuild then 1 else 0 := by
  unfold pendingBuilds
  rw [List.range_succ, List.filter_append, List.length_append]
  cases h : (s.th n).pc.inDoBuild <;> simp [h]

/-- When only thread `t < n` changes, the number of pending builds changes by `t`'s own contribution. -/
theorem pending_update (s s' : FState) (n t : Nat) (ht : t < n)
    (h : ∀ u, u ≠ t → s'.th u = s.th u) :
    pendingBuilds s' n + (if (s.th t).pc.inDoBuild then 1 else 0) = pendingBuilds s n + (if (s'.th t).pc.inDoBuild then 1 else 0) := by
  induction n with
  | zero => omega
  | succ n ih =>
    rw [pendingBuilds_succ, pendingBuilds_succ]
    by_cases htn : t = n
    · subst htn
      rw [pending_frame s s' t fun u hu => by rw [h u (Nat.ne_of_lt hu)]]
      omega
    · rw [h n (Ne.symm htn)]
      have := ih (by omega)
      omega

/-- What one step does to the counters, relative to the stepping thread's position: `cache_build` is counted when the
    thread leaves `doBuild`, `cache_failed` with every builder error, `cache_refreshed` on entering the stale re-store. -/
theorem Step.counters {c : FCfg} {s s' : FState} {t : Nat} {l : FLabel} (hs : Step c s t (s.th t) l s') :
    s'.g.builds + (if (s'.th t).pc.inDoBuild then 1 else 0) + s.g.buildCalls =
      s.g.builds + (if (s.th t).pc.inDoBuild then 1 else 0) + s'.g.buildCalls ∧
    s'.g.failed + s.g.buildErr.length = s.g.failed + s'.g.buildErr.length ∧
    s'.g.refreshed = s.g.refreshed + (if (s'.th t).pc = .refreshing then 1 else 0) := by
  cases hs <;> simp [Pc.inDoBuild, *] <;> omega

/-- Accounting invariant of the runs in which only threads below `n` take steps (`ThreadsBelow`), so that `pendingBuilds s n`
    counts every thread inside `doBuild`. -/
structure Acct (n : Nat) (s : FState) : Prop where
  builds : s.g.builds + pendingBuilds s n = s.g.buildCalls
  failed : s.g.failed = s.g.buildErr.length

theorem acct_init (n : Nat) : Acct n FState.init := by
  refine ⟨?_, rfl⟩
  simp [pendingBuilds, FState.init, Pc.inDoBuild]

theorem acct_step (c : FCfg) (n : Nat) {l : FLabel} (hl : l.thread < n) (s s' : FState) (ha : Acct n s)
    (h : step c s l = some s') : Acct n s' := by
  obtain ⟨t, rfl, hs⟩ := step_sound h
  have ⟨h1, h2, _⟩ := hs.counters
  have hp := pending_update s s' n _ hl fun u hu => hs.frame hu
  have := ha.builds
  have := ha.failed
  exact ⟨by omega, by omega⟩

def ThreadsBelow (n : Nat) (ls : List FLabel) : Prop := ∀ l ∈ ls, l.thread < n

/-- **C18_failover_totals** — for any run (any number `n` of threads, any schedule, any outcomes): once every thread has
    finished, `cache_build` equals the number of builder invocations and `cache_failed` the number of failed ones;
    in any intermediate state the difference is exactly the number of threads still inside `doBuild`. -/
theorem C18_failover_totals (c : FCfg) (n : Nat) (ls : List FLabel) (s : FState) (hb : ThreadsBelow n ls)
    (h : run c FState.init ls = some s) :
    s.g.builds + pendingBuilds s n = s.g.buildCalls ∧ s.g.failed = s.g.buildErr.length ∧
    ((∀ t, t < n → (s.th t).pc = .done ∨ (s.th t).pc = .idle) → s.g.builds = s.g.buildCalls) := by
  have ha := run_induction (fun l hl => acct_step c n (hb l hl)) (acct_init n) h
  refine ⟨ha.builds, ha.failed, ?_⟩
  intro hq
  have : pendingBuilds s n = 0 := by
    unfold pendingBuilds
    rw [List.length_eq_zero_iff, List.filter_eq_nil_iff]
    intro t ht
    rcases hq t (List.mem_range.mp ht) with hp | hp <;> simp [hp, Pc.inDoBuild]
  have := ha.builds
  omega

/-- `cache_refreshed` is bumped exactly when the stale re-store is issued. -/
theorem C18_refreshed_counts_restores (c : FCfg) (s s' : FState) (l : FLabel) (h : step c s l = some s') :
    s'.g.refreshed = s.g.refreshed + (if (s'.th l.thread).pc = .refreshing then 1 else 0) := by
  obtain ⟨t, rfl, hs⟩ := step_sound h
  exact hs.counters.2.2

end Cache
