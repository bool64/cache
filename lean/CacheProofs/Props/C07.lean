import CacheProofs.Lemmas.Refine

/-
  C07 — backends behave as a map with per-entry expiry (sequential).

  `C07_refines_spec`: for EVERY slot function `hash` that is injective (SyncMap: by construction; the sharded
  maps: whenever the keys in play do not collide — the colliding case is C09), every backend kind, every
  configuration and every finite history of timed operations, the outputs of the backend machine equal the outputs
  of the reference map, step by step.  The corollaries spell out the clauses of the property, for every slot function
  (`KindOK`: injective for SyncMap only).
-/
namespace Cache
variable (hash : Key → Nat)

/-- Agreement of one backend output with the reference output. `Walk`/`Len` agree with the reference KEY SET:
    same number of entries, no key twice, and an entry is walked iff the reference holds it with that value and expiry. -/
def OutSim : Out → Spec.SOut → Prop
  | .unit, .unit => True
  | .read .miss, .read .miss => True
  | .read (.hit v), .read (.hit v') => v = v'
  | .read (.expired v e), .read (.expired v' e') => v = v' ∧ e = e'
  | .deleted b, .deleted b' => b = b'
  | .len n, .len n' => n = n'
  | .loaded v, .loaded v' => v = v'
  | .walk es, .walk m =>
      es.length = m.length ∧ (es.map (·.K)).Nodup ∧
      ∀ e, e ∈ es ↔ Spec.get m e.K = some ⟨e.V, e.E⟩ ∧ ∃ e0 ∈ es, e0 = e
  | _, _ => False

theorem read_sim {s : Store} {m : Spec.SMap} {kind : Kind} (cfg : Cfg) (hw : s.WF hash) (hk : KindOK hash kind)
    (hr : Refines hash s m) (k : Key) (skip : Bool) (now : Time) :
    OutSim (.read (s.read hash kind cfg k skip now).2.1) (.read (Spec.read m k skip now)) := by
  cases skip
  · rw [read_eq cfg hw hk, Spec.read, hr.get_eq]
    cases s.get hash k with
    | none => trivial
    | some e =>
      simp only [Bool.false_eq_true, if_false, Option.map_some, sview]
      split <;> simp [OutSim]
  · trivial

/-- One step: well-formedness and the simulation relation are preserved, and the outputs agree. -/
theorem C07_step_refines {s : Store} {m : Spec.SMap} (kind : Kind) (cfg : Cfg)
    (hi : Function.Injective hash) (hw : s.WF hash) (hr : Refines hash s m) (now : Time) (op : Op) :
    (Backend.step hash kind cfg s now op).1.WF hash ∧
    Refines hash (Backend.step hash kind cfg s now op).1 (Spec.step cfg m now op).1 ∧
    OutSim (Backend.step hash kind cfg s now op).2.1 (Spec.step cfg m now op).2 := by
  have hk : KindOK hash kind := fun _ => hi
  refine ⟨wf_step cfg hw hk now op, ?_⟩
  cases op with
  | write k v ctxTTL rn rd | store k v rn rd =>
    exact ⟨refines_write hw hr k (fun _ hne hh => absurd (hi hh) hne) _ _ _, trivial⟩
  | read k skip => exact ⟨refines_read cfg hw hk hr _ _ _, read_sim hash cfg hw hk hr _ _ _⟩
  | load k =>
    refine ⟨refines_read cfg hw hk hr k false now, ?_⟩
    simp only [Backend.step, Spec.step, read_eq cfg hw hk, Spec.read, hr.get_eq]
    cases s.get hash k with
    | none => rfl
    | some e => by_cases hx : e.E ≠ 0 ∧ e.E < now <;> simp [hx, sview, OutSim]
  | delete k =>
    refine ⟨refines_delete hw hk hr k, ?_⟩
    simp only [Backend.step, Spec.step, OutSim, delete_eq hw hk, Spec.delete, hr.get_eq, Option.isSome_map]
    cases s.get hash k <;> rfl
  | expireAll => exact ⟨refines_expireAll hw hr now, trivial⟩
  | deleteAll => exact ⟨refines_deleteAll s m, trivial⟩
  | len => exact ⟨hr, hr.len_eq.symm⟩
  | walk =>
    refine ⟨hr, by rw [walk_length]; exact hr.len_eq.symm, walk_keys_nodup hw, fun e => ⟨fun he => ⟨?_, e, he, rfl⟩, ?_⟩⟩
    · rw [hr.get_eq, (mem_walk_iff hw e).mp he]; rfl
    · rintro ⟨_, e0, he0, rfl⟩; exact he0

def OutsSim : List Out → List Spec.SOut → Prop
  | [], [] => True
  | o :: os, so :: sos => OutSim o so ∧ OutsSim os sos
  | _, _ => False

/-- **C07_refines_spec** — any history, any length: the backend's results equal the reference map's. -/
theorem C07_refines_spec (kind : Kind) (cfg : Cfg) (hi : Function.Injective hash) (h : History) :
    ∀ (s : Store) (m : Spec.SMap), s.WF hash → Refines hash s m →
      OutsSim (Backend.run hash kind cfg s h).2.1 (Spec.run cfg m h).2 ∧
      Refines hash (Backend.run hash kind cfg s h).1 (Spec.run cfg m h).1 := by
  induction h with
  | nil => intro s m _ hr; exact ⟨trivial, hr⟩
  | cons top rest ih =>
    intro s m hw hr
    obtain ⟨now, op⟩ := top
    have ⟨hw', hr', ho⟩ := C07_step_refines hash kind cfg hi hw hr now op
    have ⟨hos, hrf⟩ := ih _ _ hw' hr'
    simp only [Backend.run, Spec.run]
    exact ⟨⟨ho, hos⟩, hrf⟩

/-- From the empty cache. -/
theorem C07_refines_spec_from_empty (kind : Kind) (cfg : Cfg) (hi : Function.Injective hash) (h : History) :
    OutsSim (Backend.run hash kind cfg Store.empty h).2.1 (Spec.run cfg [] h).2 :=
  (C07_refines_spec hash kind cfg hi h _ _ (wf_empty) (refines_empty)).1

/-- Read returns the last written value until it expires, then an expiry error carrying value and expiry time. -/
theorem C07_read_after_write (kind : Kind) (cfg : Cfg) (s : Store) (hw : s.WF hash) (hk : KindOK hash kind)
    (k : Key) (v : Option Val) (E : Time) (b : Bool) (now : Time) :
    ((s.writeCore hash k v E b).read hash kind cfg k false now).2.1 =
      if E ≠ 0 ∧ E < now then .expired v E else .hit v := by
  rw [read_eq cfg (wf_writeCore hw _ _ _ _) hk, get_writeCore]
  simp

/-- SkipRead: always ErrNotFound, no state change, no metric. -/
theorem C07_skipread (kind : Kind) (cfg : Cfg) (s : Store) (k : Key) (now : Time) :
    s.read hash kind cfg k true now = (s, .miss, []) :=
  rfl

/-- Delete reports ErrNotFound exactly for keys that are not stored, and afterwards the key reads as missing. -/
theorem C07_delete (kind : Kind) (cfg : Cfg) (s : Store) (hw : s.WF hash) (hk : KindOK hash kind) (k : Key) (now : Time) :
    ((s.delete hash kind k).2.1 = false ↔ s.get hash k = none) ∧
    ((s.delete hash kind k).1.read hash kind cfg k false now).2.1 = .miss := by
  constructor
  · rw [delete_eq hw hk]; cases s.get hash k <;> simp
  · rw [read_eq cfg ((delete_sub kind s k).wf hw) hk, get_delete hw hk]; simp

/-- ExpireAll: every stored entry — never-expiring ones included — reads as expired at any later instant,
    still carrying its last value; nothing disappears. -/
theorem C07_expireAll (kind : Kind) (cfg : Cfg) (s : Store) (hw : s.WF hash) (hk : KindOK hash kind)
    (k : Key) (e : Entry) (he : s.get hash k = some e) (t now : Time) (hlt : t < now) (ht : t ≠ 0) :
    ((s.expireAll t).1.read hash kind cfg k false now).2.1 = .expired e.V t ∧ (s.expireAll t).1.len = s.len := by
  constructor
  · rw [read_eq cfg (wf_expireAll hw t) hk, get_expireAll, he]; simp [ht, hlt]
  · exact len_expireAll s t

/-- DeleteAll empties the cache. -/
theorem C07_deleteAll (kind : Kind) (cfg : Cfg) (s : Store) (hk : KindOK hash kind) (k : Key) (now : Time) :
    ((s.deleteAll).1.read hash kind cfg k false now).2.1 = .miss ∧ (s.deleteAll).1.len = 0 := by
  constructor
  · rw [read_eq cfg (wf_deleteAll s) hk]; simp
  · exact len_deleteAll s

/-- Walk visits exactly the stored entries, each key once; Len is their number. -/
theorem C07_walk_len (s : Store) (hw : s.WF hash) :
    s.walk.length = s.len ∧ (s.walk.map (·.K)).Nodup ∧ ∀ e, e ∈ s.walk ↔ s.get hash e.K = some e :=
  ⟨walk_length s, walk_keys_nodup hw, mem_walk_iff hw⟩

/-- Well-formedness (one entry per slot, sitting in the slot of its own key) is an invariant of every history. -/
theorem C07_wf (kind : Kind) (cfg : Cfg) (hk : KindOK hash kind) (h : History) :
    ∀ s : Store, s.WF hash → (Backend.run hash kind cfg s h).1.WF hash := by
  induction h with
  | nil => intro s hw; exact hw
  | cons top rest ih => intro s hw; exact ih _ (wf_step cfg hw hk top.1 top.2)

-- every operation, on a never-expiring, a fresh and an expired entry
def demoCfg : Cfg := { ttl := -1, jn := -1, jd := 1, strategy := .lfu, deleteExpiredAfter := 10, countSoftLimit := 0, efn := 1, efd := 2 }
def demoHistory : History :=
  [(100, .write 1 (some 11) 0 0 1), (101, .write 2 (some 22) 50 0 1), (102, .write 3 none (-30) 0 1),
   (110, .read 1 false), (111, .read 2 false), (112, .read 3 false), (113, .read 4 false), (114, .read 1 true),
   (120, .len), (121, .walk), (130, .delete 2), (131, .delete 2), (140, .expireAll), (150, .read 1 false),
   (151, .load 1), (152, .store 5 (some 55) 0 1), (153, .load 5), (160, .deleteAll), (161, .len)]

example : Function.Injective (id : Key → Nat) := fun _ _ h => h
example : (Backend.run id .sharded demoCfg Store.empty demoHistory).2.1.length = 19 := by decide +kernel

end Cache
