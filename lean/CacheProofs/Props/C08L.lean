import CacheProofs.Props.C08

/-
  C08 — the linearization-point argument, for all executions at the granularity of lock sections.

  Every operation of the sharded maps other than `Read` touches a slot in ONE lock-delimited section; `SyncMap` operations on
  a key are ONE `sync.Map` primitive (`Load`, `Store`, `LoadAndDelete`). An execution at that granularity is a sequence of
  sections, each belonging to one operation and lying inside that operation's invocation/response interval, the operation's
  result being what the sequential model returns at that instant. The theorem: every such execution - any number of
  goroutines, any interleaving, any operation mix, batch operations acting on the slot at one instant of their call - has a
  linearizable history. (What is assumed is exactly that granularity: mutual exclusion of `sync.RWMutex`, atomicity of the
  `sync.Map` primitives. The known finding F14 is an operation that is NOT one section: `SyncMap.deleteExpired` checks in one
  primitive and deletes in another.)
-/
namespace Cache.Linz

/-- An execution at section granularity: the events in the order in which their sections ran, `pts` the instants. -/
structure SectionExec where
  evs : List Event
  pts : List Nat
  len : pts.length = evs.length

def increasing : List Nat → Prop
  | [] => True
  | [_] => True
  | a :: b :: rest => a < b ∧ increasing (b :: rest)

theorem increasing_pairwise : ∀ {l : List Nat}, increasing l → l.Pairwise (· < ·)
  | [], _ => .nil
  | [_], _ => by simp
  | a :: b :: rest, h => by
    have ih := increasing_pairwise h.2
    exact List.pairwise_cons.2 ⟨List.forall_mem_cons.2 ⟨h.1, fun x hx =>
      Nat.lt_trans h.1 (List.rel_of_pairwise_cons ih hx)⟩, ih⟩

/-- **C08_linearization_points** — an execution in which every operation takes effect in one section inside its interval, with
    the result the sequential model gives at that instant, has a linearizable history. -/
theorem C08_linearization_points (init : Store) (x : SectionExec)
    (hids : (x.evs.map (·.id)).Nodup)
    (hinc : increasing x.pts)
    (hin : ∀ i (h : i < x.evs.length), x.evs[i].inv ≤ x.pts[i]'(by rw [x.len]; exact h) ∧ x.pts[i]'(by rw [x.len]; exact h) ≤ x.evs[i].ret)
    (hres : replay x.evs init (x.evs.map (·.id)) = true) :
    Linearizable init x.evs := by
  refine ⟨x.evs.map (·.id), by simp, hids, fun e he => List.mem_map_of_mem he, ?_, hres⟩
  intro a ha b hb hlt
  obtain ⟨ia, hia, rfl⟩ := List.getElem_of_mem ha
  obtain ⟨ib, hib, rfl⟩ := List.getElem_of_mem hb
  have idx {i} (hi : i < x.evs.length) : (x.evs.map (·.id)).idxOf? x.evs[i].id = some i :=
    (idxOf?_eq_some_iff_of_nodup hids).2 (by simp [hi])
  refine ⟨ia, ib, idx hia, idx hib, Nat.lt_of_not_le fun hle => ?_⟩
  -- pts[ia] ≤ ret a < inv b ≤ pts[ib], and instants increase with the position
  have h1 := (hin ia hia).2
  have h2 := (hin ib hib).1
  rcases Nat.eq_or_lt_of_le hle with rfl | h
  · omega
  · have := List.pairwise_iff_getElem.1 (increasing_pairwise hinc) ib ia (x.len ▸ hib) (x.len ▸ hia) h
    omega

/-- The section machine: run the sections in order on the sequential model, recording for each operation the result it
    observes. -/
def runSections (s : Store) : List (Nat × LOp) → List (Nat × LOp × LRes)
  | [] => []
  | (id, op) :: rest => (id, op, (apply s op).2) :: runSections (apply s op).1 rest

def mkEvents : List (Nat × LOp × LRes) → List (Nat × Nat) → List Event
  | (id, op, r) :: rest, (inv, ret) :: ivs => { id := id, op := op, res := r, inv := inv, ret := ret } :: mkEvents rest ivs
  | _, _ => []

theorem mkEvents_eq_zipWith : ∀ (rs : List (Nat × LOp × LRes)) (ivs : List (Nat × Nat)),
    mkEvents rs ivs = List.zipWith (fun r iv => ⟨r.1, r.2.1, r.2.2, iv.1, iv.2⟩) rs ivs
  | [], _ => by simp [mkEvents]
  | _ :: _, [] => by simp [mkEvents]
  | (_, _, _) :: rs, (_, _) :: ivs => by simp [mkEvents, mkEvents_eq_zipWith rs ivs]

theorem mkEvents_ids (rs : List (Nat × LOp × LRes)) (ivs : List (Nat × Nat)) (hl : ivs.length = rs.length) :
    (mkEvents rs ivs).map (·.id) = rs.map (·.1) := by
  rw [mkEvents_eq_zipWith, List.map_zipWith]
  apply List.ext_getElem <;> simp [hl]

theorem runSections_ids (s : Store) (secs : List (Nat × LOp)) : (runSections s secs).map (·.1) = secs.map (·.1) := by
  induction secs generalizing s with
  | nil => rfl
  | cons sec rest ih => simp [runSections, ih]

theorem replay_runSections {evs : List Event} (hnd : (evs.map (·.id)).Nodup) (s : Store) (secs : List (Nat × LOp))
    (ivs : List (Nat × Nat)) (hl : ivs.length = secs.length) (hsub : ∀ e ∈ mkEvents (runSections s secs) ivs, e ∈ evs) :
    replay evs s (secs.map (·.1)) = true := by
  induction secs generalizing s ivs with
  | nil => rfl
  | cons sec rest ih =>
    obtain _ | ⟨iv, ivs⟩ := ivs
    · simp at hl
    · simp only [runSections, mkEvents, List.forall_mem_cons] at hsub
      rw [List.map_cons, replay_cons hnd hsub.1, beq_self_eq_true, Bool.true_and]
      exact ih _ ivs (by simpa using hl) hsub.2

/-- **C08_single_section_ops_linearizable** — for every interleaving (the order of `secs`), every operation mix and every
    assignment of invocation/response stamps that brackets each operation's section, the history the section machine produces
    is linearizable with respect to the sequential backend model. -/
theorem C08_single_section_ops_linearizable (init : Store) (secs : List (Nat × LOp)) (ivs : List (Nat × Nat)) (pts : List Nat)
    (hl : ivs.length = secs.length) (hp : pts.length = secs.length)
    (hids : (secs.map (·.1)).Nodup) (hinc : increasing pts)
    (hin : ∀ i (h : i < secs.length), (ivs[i]'(by rw [hl]; exact h)).1 ≤ pts[i]'(by rw [hp]; exact h) ∧
        pts[i]'(by rw [hp]; exact h) ≤ (ivs[i]'(by rw [hl]; exact h)).2) :
    Linearizable init (mkEvents (runSections init secs) ivs) := by
  have hlr : (runSections init secs).length = secs.length := by simpa using congrArg List.length (runSections_ids init secs)
  have hids' := (mkEvents_ids _ ivs (hl.trans hlr.symm)).trans (runSections_ids init secs)
  have hlen : (mkEvents (runSections init secs) ivs).length = secs.length := by simpa using congrArg List.length hids'
  refine C08_linearization_points init ⟨_, pts, hp.trans hlen.symm⟩ (hids' ▸ hids) hinc (fun i h => ?_) ?_
  · simpa [mkEvents_eq_zipWith] using hin i (hlen ▸ h)
  · exact hids' ▸ replay_runSections (hids' ▸ hids) init secs ivs hl fun _ h => h

example : Linearizable Store.empty
    (mkEvents (runSections Store.empty [(1, .write 1 5 false), (2, .read 1), (3, .delete 1)]) [(0, 4), (1, 5), (2, 6)]) :=
  C08_single_section_ops_linearizable _ _ _ [2, 3, 4] rfl rfl (by decide) (by simp [increasing])
    (by decide)

end Cache.Linz
