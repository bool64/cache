import CacheModel.Lone
import CacheProofs.Lemmas.FState

/-
  C03 — a lone Get follows the documented stale / failure decision table.

  `loneGet` is the Failover machine run with ONE thread against given environment answers (the cell of the table):
  what the backend answers to the Read, the failure-cache content, the builder outcome. Keys, values, errors, clock
  readings, `MaxStaleness` and every flag the path of the cell does not read stay universally quantified. Each clause of the
  statement is one theorem. What value accompanies a CACHED failure is left open by the statement and by the theorems.

  The proofs execute the machine by `simp`, one step at a time (`loneRun_succ`); the two places where the path does not depend
  on what the cell leaves open are lemmas: the way to `classify` is the same with and without SyncRead
  (`loneGet_classify`), and a failure cache that has nothing to serve is passed whatever the reason (`loneRun_checkErrs`).
-/
namespace Cache

def demoCfg03 : FCfg := { variant := .failover, syncUpdate := false, syncRead := false, failHard := false, maxStaleness := 0,
                          failedUpdateTTL := 20000000000, updateTTL := 60000000000 }

/-- No failure is served from the failure cache: it is disabled, or empty for the key, or the entry has expired. -/
def NoCachedFailure (c : FCfg) (cached : Option (Err × Time)) (now : Time) : Prop :=
  c.errCache = false ∨ cached = none ∨ ∃ e E, cached = some (e, E) ∧ Gen.isExpired E now = true

/-- One step of the lone run. The rest of the run is not yet applied to a state, so `simp` executes the run from the outside
    in, on states that are known, instead of unfolding all of it first. -/
theorem loneRun_succ (c : FCfg) (a : LoneEnv) (n : Nat) (s : FState) :
    loneRun c a (n + 1) s = match loneLabel a s with
      | none => s
      | some l => (step c s l).elim s (loneRun c a n) := by
  rw [loneRun]
  cases loneLabel a s with
  | none => rfl
  | some l => simp only []; cases step c s l <;> rfl

theorem loneRun_checkErrs {c : FCfg} {a : LoneEnv} {n : Nat} {s : FState} (hpc : (s.th 0).pc = .checkErrs)
    (hnc : NoCachedFailure c (s.errs (s.th 0).key) a.now ∨ (s.th 0).skipRead = true) :
    loneRun c a (n + 1) s = loneRun c a n (s.setTh 0 { s.th 0 with pc := .decideSync }) := by
  rcases hnc with (h | h | ⟨e, E, h, hx⟩) | h <;> simp [loneRun, loneLabel, step, *]

/-- Overwritten thread updates (`setTh t` twice) collapse. -/
theorem ite_else_ite {α} (p : Prop) [Decidable p] (a b d : α) : (if p then a else if p then b else d) = if p then a else d := by
  split <;> simp [*]

attribute [local simp] loneRun_succ loneLabel step FState.setTh FState.req FState.noteRead FState.noteWrite
  Thread.storeTTL ite_else_ite
-- tried before `loneRun_succ`
attribute [local simp high] loneRun_checkErrs

/-- The lone Get at `classify`: its Read was answered `r`, and it owns the fresh lock 0 of its key. -/
def loneClassify (key : Key) (skip : Bool) (cached : Option (Err × Time)) (r : ReadAns) : FState :=
  ({ th := fun u => if u = 0 then { pc := .classify, key := key, skipRead := skip, owner := true, readRes := r } else {},
     keyLocks := fun k => if k = key then some 0 else none, nextLid := 1,
     errs := fun k => if k = key then cached else none, g := { requests := [(0, .read key skip)] } } : FState).noteRead key r

theorem loneGet_classify (c : FCfg) (a : LoneEnv) (key : Key) (skip : Bool) (cached : Option (Err × Time))
    (hr : ∀ v, a.read ≠ .hit v) : loneGet c a key skip cached = loneRun c a 12 (loneClassify key skip cached a.read) := by
  -- of `loneGet`'s fuel 14 the election and the Read's answer take two, in either order; with the fuel a variable the run on
  -- the right-hand side stays folded
  have : ∀ n, (match step c { errs := fun k => if k = key then cached else none } (.begin 0 key skip none) with
      | some s1 => loneRun c a (n + 2) s1
      | none => { errs := fun k => if k = key then cached else none }) = loneRun c a n (loneClassify key skip cached a.read) := by
    intro n
    cases hsr : c.syncRead <;> simp [loneClassify, *]
  exact this 12

/-- Fresh values are returned without building — whatever the configuration, failure cache and builder. -/
theorem C03_fresh_no_build (c : FCfg) (a : LoneEnv) (key : Key) (v : Val) (cached : Option (Err × Time))
    (hr : a.read = .hit v) :
    ((loneGet c a key false cached).th 0).returned = some ⟨some v, none⟩ ∧ (loneGet c a key false cached).g.buildCalls = 0 := by
  cases hsr : c.syncRead <;> simp [loneGet, *]

/-- Absent entry: Get blocks on a synchronous build; success returns the built value (which is stored), failure returns the
    builder error — with or without FailHard, there is nothing to fall back to. The builder runs exactly once. -/
theorem C03_absent_blocks_on_build (c : FCfg) (a : LoneEnv) (key : Key) (cached : Option (Err × Time))
    (hr : a.read = .miss) (hnc : NoCachedFailure c cached a.now) (hs : a.storeWrite = .ok) :
    (∀ u ups, a.build = .ok u ups →
        ((loneGet c a key false cached).th 0).returned = some ⟨some u, none⟩ ∧
        (0, Req.write key u 0) ∈ (loneGet c a key false cached).g.requests ∧
        ((loneGet c a key false cached).th 0).bg = false) ∧
    (∀ e ups, a.build = .err e ups →
        ((loneGet c a key false cached).th 0).returned = some ⟨none, some e⟩) ∧
    (loneGet c a key false cached).g.buildCalls = 1 := by
  rw [loneGet_classify c a key false cached (by simp [hr]), hr]
  cases hb : a.build with
  | ok => simp [loneClassify, *]
  | err => cases hec : c.errCache <;> simp [loneClassify, *]

/-- An acceptable stale value (expired within MaxStaleness), background mode: it is re-stored with UpdateTTL and returned
    IMMEDIATELY — the Get has returned by the time the builder is invoked (`bg`, detached builder context) — whatever the
    builder does afterwards. -/
theorem C03_stale_served_bg_build (c : FCfg) (a : LoneEnv) (key : Key) (cached : Option (Err × Time)) (v : Val) (since : Int)
    (hr : a.read = .stale v since) (hf : c.freshEnough since = true) (hsu : c.syncUpdate = false)
    (hw : a.refreshWrite = .ok) (hnc : NoCachedFailure c cached a.now) :
    ((loneGet c a key false cached).th 0).returned = some ⟨some v, none⟩ ∧
    ((loneGet c a key false cached).th 0).bg = true ∧ ((loneGet c a key false cached).th 0).detached = true ∧
    (loneGet c a key false cached).g.buildCalls = 1 ∧ (loneGet c a key false cached).g.refreshed = 1 ∧
    (0, Req.write key v c.updateTTL) ∈ (loneGet c a key false cached).g.requests := by
  rw [loneGet_classify c a key false cached (by simp [hr]), hr]
  cases hb : a.build <;> cases hsw : a.storeWrite <;> cases hec : c.errCache <;> simp [loneClassify, *]

/-- An acceptable stale value with SyncUpdate: the Get waits for the build; success returns the NEW value, failure returns
    the stale value — unless FailHard, then the builder error. -/
theorem C03_stale_sync_update (c : FCfg) (a : LoneEnv) (key : Key) (cached : Option (Err × Time)) (v : Val) (since : Int)
    (hr : a.read = .stale v since) (hf : c.freshEnough since = true) (hsu : c.syncUpdate = true)
    (hw : a.refreshWrite = .ok) (hs : a.storeWrite = .ok) (hnc : NoCachedFailure c cached a.now) :
    (∀ u ups, a.build = .ok u ups → ((loneGet c a key false cached).th 0).returned = some ⟨some u, none⟩) ∧
    (∀ e ups, a.build = .err e ups →
      ((loneGet c a key false cached).th 0).returned = some (if c.failHard then ⟨none, some e⟩ else ⟨some v, none⟩)) ∧
    ((loneGet c a key false cached).th 0).bg = false ∧ (loneGet c a key false cached).g.buildCalls = 1 := by
  rw [loneGet_classify c a key false cached (by simp [hr]), hr]
  cases hb : a.build with
  | ok => simp [loneClassify, *]
  | err => cases hec : c.errCache <;> cases hfh : c.failHard <;> simp [loneClassify, *]

/-- A value expired longer than MaxStaleness: never served while its rebuild succeeds — the Get blocks on the build and
    returns the new value; if the build fails the stale value is served regardless of MaxStaleness, unless FailHard. No
    refresh-write happens. -/
theorem C03_too_stale_blocks_on_build (c : FCfg) (a : LoneEnv) (key : Key) (cached : Option (Err × Time)) (v : Val) (since : Int)
    (hr : a.read = .stale v since) (hf : c.freshEnough since = false)
    (hs : a.storeWrite = .ok) (hnc : NoCachedFailure c cached a.now) :
    (∀ u ups, a.build = .ok u ups → ((loneGet c a key false cached).th 0).returned = some ⟨some u, none⟩) ∧
    (∀ e ups, a.build = .err e ups →
      ((loneGet c a key false cached).th 0).returned = some (if c.failHard then ⟨none, some e⟩ else ⟨some v, none⟩)) ∧
    ((loneGet c a key false cached).th 0).bg = false ∧ (loneGet c a key false cached).g.buildCalls = 1 ∧
    (loneGet c a key false cached).g.refreshed = 0 := by
  rw [loneGet_classify c a key false cached (by simp [hr]), hr]
  cases hb : a.build with
  | ok => simp [loneClassify, *]
  | err => cases hec : c.errCache <;> cases hfh : c.failHard <;> simp [loneClassify, *]

/-- A failure cached for the key (and not yet expired) short-circuits every Get that found no fresh value: the cached error is
    returned and the builder is NOT invoked (README: "all consecutive calls … fail immediately with same error"). -/
theorem C03_cached_failure_short_circuits (c : FCfg) (a : LoneEnv) (key : Key) (e : Err) (E : Time)
    (hr : (∃ v since, a.read = .stale v since ∧ c.freshEnough since = false) ∨ a.read = .miss)
    (hec : c.errCache = true) (hx : Gen.isExpired E a.now = false) :
    (∃ v, ((loneGet c a key false (some (e, E))).th 0).returned = some ⟨v, some e⟩) ∧
    (loneGet c a key false (some (e, E))).g.buildCalls = 0 := by
  rcases hr with ⟨v, since, hr, hf⟩ | hr <;>
    rw [loneGet_classify c a key false _ (by simp [hr]), hr] <;> simp [loneClassify, *]

/-- SkipRead forces a rebuild: the backend (honouring SkipRead) reports a miss and the failure cache is bypassed, so the
    builder runs even though a failure is cached; the result is stored. -/
theorem C03_skipread_bypasses_failure_cache (c : FCfg) (a : LoneEnv) (key : Key) (cached : Option (Err × Time)) (u : Val) (ups : List Int)
    (hr : a.read = .miss) (hb : a.build = .ok u ups) (hs : a.storeWrite = .ok) :
    ((loneGet c a key true cached).th 0).returned = some ⟨some u, none⟩ ∧
    (0, Req.write key u 0) ∈ (loneGet c a key true cached).g.requests := by
  rw [loneGet_classify c a key true cached (by simp [hr]), hr]
  simp [loneClassify, *]

/-- The outcome is a function of the cell (entry state as answered by the backend, failure cache, flags, builder result):
    `loneGet` is a function; two runs on the same cell agree. -/
theorem C03_outcome_is_function_of_cell (c : FCfg) (a a' : LoneEnv) (key : Key) (skip : Bool) (cached : Option (Err × Time))
    (h : a = a') : loneGet c a key skip cached = loneGet c a' key skip cached := by rw [h]

-- Non-vacuity: concrete cells of the table.
example : ((loneGet demoCfg03 { read := .stale 5 10, build := .ok 9 [] } 7 false none).th 0).returned = some ⟨some 5, none⟩ := by decide
example : ((loneGet { demoCfg03 with syncUpdate := true } { read := .stale 5 10, build := .err 3 [] } 7 false none).th 0).returned
    = some ⟨some 5, none⟩ := by decide
example : ((loneGet { demoCfg03 with syncUpdate := true, failHard := true } { read := .stale 5 10, build := .err 3 [] } 7 false none).th 0).returned
    = some ⟨none, some 3⟩ := by decide
example : ((loneGet { demoCfg03 with maxStaleness := 5 } { read := .stale 5 10, build := .ok 9 [] } 7 false none).th 0).returned
    = some ⟨some 9, none⟩ := by decide
example : ((loneGet demoCfg03 { read := .miss, now := 100, build := .ok 9 [] } 7 false (some (4, 500))).th 0).returned
    = some ⟨none, some 4⟩ := by decide

end Cache
