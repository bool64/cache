import CacheProofs.Props.C02
import CacheProofs.Props.C04

/-
  C09 (Failover half) — the frontend keys everything by the KEY, never by a hash, and captures the key by value.
  `keyLocks`, the failure cache `errs` and the provenance sets are functions / lists over `Key`; the theorems below say that
  what a thread holds, publishes or caches is tied to ITS key in every reachable state. The aliasing half of the property
  (no component keeps a reference to the caller's slice) is enforced by the harness rewriting every buffer after each call.
-/
namespace Cache

/-- The lock a thread owns is the one registered under its own key, and two distinct keys never share a lock record. -/
theorem C09_failover_locks_by_key (c : FCfg) (s : FState) (h : Reachable c s) :
    (∀ t, (s.th t).owning → s.keyLocks (s.th t).key = some (s.th t).lid) ∧
    (∀ k k' l, s.keyLocks k = some l → s.keyLocks k' = some l → k = k') :=
  ⟨fun t ht => ((reachable_inv h).own t ht).1, (reachable_inv h).inj⟩

/-- What a background build writes to and unlocks is the key captured at the start of the Get: no later step changes it. -/
theorem C09_key_never_changes (c : FCfg) (s s' : FState) (l : FLabel) (h : step c s l = some s') (t : Nat)
    (hstarted : (s.th t).pc ≠ .idle) : (s'.th t).key = (s.th t).key :=
  C04_key_captured_by_value c s s' l h t hstarted

/-- The failure cache never serves a key an error that belongs to another key. -/
theorem C09_failure_cache_by_key (c : FCfg) (s : FState) (h : Reachable c s) (k : Key) (e : Err) (E : Time)
    (he : s.errs k = some (e, E)) : (k, e) ∈ s.g.buildErr :=
  C02_failure_cache_provenance c s h k e E he

/-- **C09_skeleton_key_handling** — the text of the code does what the machine's representation of keys presupposes (facts
    re-read from the source by `tools/gokernel` on every run): the key-lock table of both frontends is indexed by
    `string(key)` at every access of `Get` (so it is a function of the KEY, as `FState.keyLocks : Key → _` says, not of its
    hash); `Get` copies the key before the `go` statement of the background update (so a thread's `key` is a value, as
    `C09_key_never_changes` says of the machine); and every backend `Write` stores a slice it made and filled itself
    (so a stored key never aliases the caller's buffer). -/
theorem C09_skeleton_key_handling :
    Gen.keyLocksByKey = true ∧ Gen.keyLocksByKeyOf = true ∧ Gen.bgKeyCopied = true ∧ Gen.bgKeyCopiedOf = true ∧
    Gen.storedKeyCopied = true ∧ Gen.storedKeyCopiedOf = true ∧ Gen.storedKeyCopiedSync = true := by decide

end Cache
